import GenjaxVerif.Lemmas.GFIRun
import GenjaxVerif.Model.Derived
import GenjaxVerif.Props.GFITest
/-!
# C16 — masked iteration steps with a false mask are inert

`masked_iterate` / `masked_iterate_final` scan the step `step.mask().dimap(pre, post)` with
`pre(state, flag) = (flag, state)` (`Derived.maskedStep`).
-/
namespace GenjaxVerif.GFI
open GenjaxVerif

/-- The return map of `masked_iterate_final`'s step: `where(flag, masked_retval.value, state)`. -/
def finalPost : Expr := .tup [.sel (.proj (.var 0) 1) (.unmask (.var 2)) (.proj (.var 0) 0), .tup []]

/-- The payload of a (possibly masked) value; a step kernel returns a plain value, for which this is the identity. -/
def payload : Val → Val
  | .mask _ v => v
  | v => v

theorem C16_final_def (p : Prog) :
    Derived.maskedIterateFinal p = Derived.map (.scan (Derived.maskedStep p finalPost) none) (.proj (.var 2) 0) := rfl

/-- `where(flag, masked_retval.value, state)` on the value a mask combinator returns, under its own flag. -/
theorem eval_finalPost (state xf rv : Val) (check : Bool) :
    Expr.eval [.tup [state, .int (if check then 1 else 0)], xf, Val.mkMask check rv] finalPost =
      .ok (.tup [if check then payload rv else state, .tup []]) := by
  obtain ⟨f, hmk⟩ : ∃ f, Val.mkMask check rv = .mask f (payload rv) := by cases rv <;> exact ⟨_, rfl⟩
  rw [hmk]
  cases check <;> rfl

/-- One step, every mode that the mask combinator supports: with a False flag it contributes
    nothing to the score (and nothing to the weight of simulate / assess / generate), and in
    `masked_iterate_final` the iterated value stays what it was; with a True flag the score is the
    kernel's and the value is the kernel's return value. -/
theorem C16_step (ds : DistSem) (m : Mode) (hm : m = .sim ∨ m = .assess ∨ m = .gen) (p : Prog) (i : In) (r : Res)
    (state : Val) (flag : Int) (ha : i.args = .tup [state, .int flag])
    (h : run ds m (Derived.maskedStep p finalPost) i = .ok r) :
    ∃ r', run ds m p { i with old := none, args := .tup [state] } = .ok r' ∧
      (flag = 0 → r.tr.score = 0 ∧ r.w = 0 ∧ r.tr.ret = .tup [state, .tup []]) ∧
      (flag ≠ 0 → r.tr.score = r'.tr.score ∧ r.w = r'.w ∧ r.tr.ret = .tup [payload r'.tr.ret, .tup []]) := by
  obtain ⟨as, has, ia, hia, o, ho, rm, hrm, rv, hrv, rfl⟩ := run_dimap.1 h
  rw [ha] at has hrv
  cases has
  -- `pre(state, flag) = (flag, state)`, by evaluation
  obtain rfl : [.int flag, state] = ia := Except.ok.inj hia
  obtain rfl : none = o := by rcases hm with rfl | rfl | rfl <;> exact Except.ok.inj ho
  obtain ⟨check, iargs, hma, r', hr', rfl⟩ := (run_mask_plain hm).1 hrm
  -- `flag` is the 0 / 1 integer of `check`
  cases maskArgs_ok.1 hma
  rw [Trace.ret, eval_finalPost] at hrv
  cases hrv
  cases check
  · exact ⟨r', hr', fun _ => ⟨rfl, rfl, rfl⟩, fun hf => absurd rfl hf⟩
  · exact ⟨r', hr', fun hf => absurd hf (by decide), fun _ => ⟨rfl, rfl, rfl⟩⟩

/-- tests: flags [1, 0, 1] on the step x ↦ x + z -/
example : (run Test.ds .sim (Derived.maskedIterateFinal
      (.static (.bind ["z"] (.dist 1) [.var 0] (.ret (.add (.var 0) (.var 1))))))
    { Test.in1 with args := .tup [.int 1, .arr [.int 1, .int 0, .int 1]] }).toOption.map
    (fun r => (r.tr.ret, r.tr.score)) = some (.int 5, 26) := by rfl

end GenjaxVerif.GFI
