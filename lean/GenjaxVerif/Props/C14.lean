import GenjaxVerif.Lemmas.GFIUpdate
import GenjaxVerif.Props.GFITest
/-!
# C14 — mask: a true flag is transparent and a false flag is inert
-/
namespace GenjaxVerif.GFI
open GenjaxVerif

/-- simulate / assess / generate of a masked function, for every inner program: the inner
    function is run on the remaining arguments; with flag True the score, weight and choices are
    the inner ones and the return value is wrapped in a valid mask; with flag False the score
    and the weight are 0, every choice is invalid (masked by False) and the return value is an
    invalid mask. -/
theorem C14_mask_transparent_or_inert (ds : DistSem) (m : Mode) (hm : m = .sim ∨ m = .assess ∨ m = .gen)
    (p : Prog) (i : In) (r : Res) (h : run ds m (.mask p) i = .ok r) :
    ∃ check iargs r', maskArgs i.args = .ok (check, iargs) ∧
      run ds m p { i with args := .tup iargs } = .ok r' ∧
      r.tr = .mask check r'.tr ∧
      r.tr.ret = Val.mkMask check r'.tr.ret ∧
      r.tr.choices = CMap.maskAll check r'.tr.choices ∧
      (check = true → r.tr.score = r'.tr.score ∧ r.w = r'.w) ∧
      (check = false → r.tr.score = 0 ∧ r.w = 0) := by
  obtain ⟨check, iargs, hma, r', hr, rfl⟩ := (run_mask_plain hm).1 h
  refine ⟨check, iargs, r', hma, hr, rfl, rfl, rfl, ?_, ?_⟩
  · intro hc; subst hc; simp [Trace.score]
  · intro hc; subst hc; simp [Trace.score]

/-- An invalid-masked choice map has no valid entry: every stored value carries flag False. -/
theorem C14_false_choices_all_invalid (c : CMap) :
    ∀ pv ∈ CMap.maskAll false c, ∃ v, pv.2 = .masked false v := by
  intro pv hpv
  simp only [CMap.maskAll, List.mem_map] at hpv
  obtain ⟨⟨p, v⟩, _, rfl⟩ := hpv
  cases v <;> simp [CVal.mask]

/-- An update that changes the flag (all four transitions) has weight new score − old score. -/
theorem C14_flip_weight (ds : DistSem) (p : Prog) (i : In) (r : Res) (pre : Bool) (inner : Trace)
    (h : run ds .upd (.mask p) i = .ok r) (ho : i.old = some (.mask pre inner)) (hs : Shape p inner)
    (hsafe : Safe i.changed p) :
    r.w = r.tr.score - (Trace.mask pre inner).score :=
  upd_w ds (.mask p) i r _ h ho hs hsafe

/-- tests: both flag values on a concrete program -/
example : (run Test.ds .sim Test.progMask { Test.in1 with args := .tup [.int 1, .int 7] }).toOption.map
    (fun r => (r.tr.score, r.tr.ret)) = some (13, .mask true (.int 2)) := by rfl
example : (run Test.ds .sim Test.progMask { Test.in1 with args := .tup [.int 0, .int 7] }).toOption.map
    (fun r => (r.tr.score, r.w)) = some (0, 0) := by decide +kernel

end GenjaxVerif.GFI
