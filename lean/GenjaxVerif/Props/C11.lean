import GenjaxVerif.Lemmas.CMap
import GenjaxVerif.Lemmas.GFIUpdate
import GenjaxVerif.Props.GFITest
/-!
# C11 — vmap and repeat behave as independent elementwise calls
-/
namespace GenjaxVerif.GFI
open GenjaxVerif CMap

/-- For every mode: a vmapped function over N elements is N calls of the inner function; call `k`
    receives the `k`-th slice of the mapped arguments (unmapped ones unchanged), the sub-constraint
    at index `k`, the key `split(key, N)[k]` and (for edits) the `k`-th previous subtrace.  The
    result stacks the element returns; weight and score are the sums over elements; element `k`'s
    choices sit under index `k`. -/
theorem C11_vmap_elementwise (ds : DistSem) (m : Mode) (p : Prog) (axes : List Ax) (i : In) (r : Res)
    (h : run ds m (.vmap p axes) i = .ok r) :
    ∃ as n rs, argList i.args = .ok as ∧ dimLength axes as = .ok n ∧ rs.length = n ∧
      (∀ k (hk : k < rs.length), ∃ ik, vmapElem axes as i k = .ok ik ∧ run ds m p ik = .ok rs[k]) ∧
      r.tr = .vec i.args (.arr (rs.map (·.tr.ret))) (rs.map (·.tr)) ∧
      r.w = sumW rs ∧ r.tr.score = Trace.scoreL (rs.map (·.tr)) ∧
      r.tr.choices = Trace.choicesL 0 (rs.map (·.tr)) := by
  obtain ⟨as, rs, has, hn, _, hel, rfl⟩ := vmapRun_ok.1 h
  exact ⟨as, _, rs, (vmapArgs_ok.1 has).2, hn, rfl, hel, rfl, rfl, rfl, rfl⟩

theorem C11_element_input (axes : List Ax) (as : List Val) (i ik : In) (k : Nat)
    (h : vmapElem axes as i k = .ok ik) :
    ik.c = CMap.sub i.c (.i k) ∧ ik.key = i.key.child k ∧ ik.sel = i.sel ∧
    ∃ ea, sliceArgs axes as k = .ok ea ∧ ik.args = .tup ea := by
  obtain ⟨ea, _, hea, _, rfl⟩ := vmapElem_ok.1 h
  exact ⟨rfl, rfl, rfl, ea, hea, rfl⟩

/-- A constraint placed at index `j` reaches element `k` only if `k = j`. -/
theorem C11_indexed_constraint_only_its_element (j k : Nat) (c : CMap) :
    CMap.sub (CMap.pre [.i j] c) (.i k) = if j = k then c else [] := by
  by_cases h : j = k
  · subst h; rw [if_pos rfl, sub_pre_same]
  · rw [if_neg h, sub_pre_ne fun h' => h (Comp.i.inj h')]

/-- The choices of element `k` are found under index `k` of the vector trace's choices. -/
theorem C11_choices_under_index (ts : List Trace) (k : Nat) (hk : k < ts.length) :
    CMap.sub (Trace.choicesL 0 ts) (.i k) = ts[k].choices := by
  simpa using sub_choicesL ts 0 k hk

/-- Zero-length maps are empty with score 0. -/
theorem C11_zero_length (a : Val) : (Trace.vec a (.arr []) []).score = 0 ∧ (Trace.vec a (.arr []) []).choices = [] := by
  simp [Trace.score, Trace.scoreL, Trace.choices, Trace.choicesL]

/-- The slice follows `in_axes`: along axis 1 element `k` sees column `k` of the argument, whose rows
    the other elements share (a test of the definition on a square argument, where taking row `k`
    instead would go unnoticed by shape checks). -/
theorem C11_slice_follows_axis :
    sliceArgs [some 1, none] [.arr [.arr [.int 1, .int 2], .arr [.int 3, .int 4]], .int 9] 0
        = .ok [.arr [.int 1, .int 3], .int 9] ∧
    sliceArgs [some 0, none] [.arr [.arr [.int 1, .int 2], .arr [.int 3, .int 4]], .int 9] 0
        = .ok [.arr [.int 1, .int 2], .int 9] ∧
    dimLength [none, some 1] [.int 9, .arr [.arr [.int 1, .int 2, .int 5], .arr [.int 3, .int 4, .int 6]]] = .ok 3 :=
  ⟨rfl, rfl, rfl⟩

/-- `repeat(n)` is, by the library's own definition, a vmap over `zeros(n)` paired with the
    (unmapped) argument tuple, the inner function ignoring the index. -/
theorem C11_repeat_def (p : Prog) (n : Nat) :
    Derived.repeat p n =
      .dimap (.whole (.tup [.zeros n, .all])) (.vmap (.dimap (.whole (.var 1)) p Derived.retId) [some 0, none])
        Derived.retId := rfl

/-- … so every one of its `n` elements calls `p` on the same arguments. -/
theorem C11_repeat_element_args (n k : Nat) (args : List Val) (hk : k < n) :
    (do let ia ← Pre.apply (.whole (.tup [.zeros n, .all])) args
        let ea ← sliceArgs [some 0, none] ia k
        Pre.apply (.whole (.var 1)) ea) = .ok args := by
  simp [Pre.apply, Expr.eval, Expr.evalL, sliceArgs, sliceAx, bind, Except.bind, pure, Except.pure, hk]

end GenjaxVerif.GFI

namespace GenjaxVerif.GFI
open GenjaxVerif

/-- `IndexRequest(idx, request)` on a vmap trace edits element `idx` only — by the inner function's own
    edit on that element's slice of the arguments — and keeps every other element as it is; its
    weight is the element's weight and its backward request sits under index `idx`. -/
theorem C11_index_request_edits_one_element (ds : DistSem) (m : Mode) (p : Prog) (axes : List Ax) (key : KeyPath)
    (args ret : Val) (elems : List Trace) (idx : Nat) (c : CMap) (sel : Sel) (r : Res)
    (h : editIndex ds m (.vmap p axes) key (.vec args ret elems) idx c sel = .ok r) :
    ∃ (hk : idx < elems.length) (as ea : List Val) (r' : Res), argList args = .ok as ∧ sliceArgs axes as idx = .ok ea ∧
      run ds m p { c, sel, old := some elems[idx], key, args := .tup ea } = .ok r' ∧
      r.tr = .vec args (.arr ((elems.set idx r'.tr).map (·.ret))) (elems.set idx r'.tr) ∧
      r.w = r'.w ∧ r.bwd = CMap.pre [.i idx] r'.bwd :=
  vmap_index_edit ds m p axes key args ret elems idx c sel r h

/-- … and the weight of an index Update is new score − old score of the whole vmap trace. -/
theorem C11_index_update_weight (ds : DistSem) (p : Prog) (axes : List Ax) (key : KeyPath)
    (args ret : Val) (elems : List Trace) (idx : Nat) (c : CMap) (sel : Sel) (r : Res)
    (hs : ∀ t ∈ elems, Shape p t) (hsafe : Safe false p)
    (h : editIndex ds .upd (.vmap p axes) key (.vec args ret elems) idx c sel = .ok r) :
    r.w = r.tr.score - (Trace.vec args ret elems).score := by
  obtain ⟨hk, as, ea, r', _, _, hr', htr, hw, _⟩ := vmap_index_edit ds .upd p axes key args ret elems idx c sel r h
  rw [htr, hw, upd_w ds p _ r' elems[idx] hr' rfl (hs _ (List.getElem_mem hk)) hsafe]
  exact (scoreL_set elems idx r'.tr hk).symm

end GenjaxVerif.GFI
