import GenjaxVerif.Lemmas.Sel
/-!
# C18 — Selections form a Boolean algebra over static addresses

The model functions are defined in `Model/Sel.lean`.  Every theorem is for
*all* selection terms and *all* addresses of any length — the bounded-exhaustive check in
the harness only ties the model to the Python classes.
-/
namespace GenjaxVerif.Sel

/-- Central theorem: membership computed the way the implementation computes it
    (iterated `get_subselection`, re-simplifying at every step, then `check`) equals the
    reference meaning of the term, for every raw term and every address. -/
theorem C18_mem_eq_den (s : Sel) (p : List String) : mem s p = den s p := by
  induction p generalizing s with
  | nil => exact check_eq_den s
  | cons x q ih => rw [← den_sub]; exact ih (sub s x)

/-- `|` is pointwise disjunction (through the simplifying constructor `OrSel.build`). -/
theorem C18_mem_or (a b : Sel) (p : List String) : mem (mkOr a b) p = (mem a p || mem b p) := by
  simp [C18_mem_eq_den, den_mkOr]

/-- `&` is pointwise conjunction (through `AndSel.build`). -/
theorem C18_mem_and (a b : Sel) (p : List String) : mem (mkAnd a b) p = (mem a p && mem b p) := by
  simp [C18_mem_eq_den, den_mkAnd]

/-- `~` is pointwise negation (through `ComplementSel.build`). -/
theorem C18_mem_compl (s : Sel) (p : List String) : mem (mkCompl s) p = !mem s p := by
  simp [C18_mem_eq_den, den_mkCompl]

theorem C18_mem_all (p : List String) : mem all p = true := by simp [C18_mem_eq_den, den]
theorem C18_mem_none (p : List String) : mem none p = false := by simp [C18_mem_eq_den, den]
theorem C18_mem_leaf (p : List String) : mem leaf p = p.isEmpty := by simp [C18_mem_eq_den, den]

/-- Sub-selection commutes with membership: `S(a)[b] == S[a, b]`. -/
theorem C18_subs_mem (s : Sel) (a b : List String) : mem (subs s a) b = mem s (a ++ b) := by
  simp [mem, subs_append]

/-- The simplifying constructors never change which addresses are selected. -/
theorem C18_simplifiers_sound (a b : Sel) (x : XAddr) (p : List String) :
    mem (mkOr a b) p = mem (or a b) p ∧ mem (mkAnd a b) p = mem (and a b) p ∧
    mem (mkCompl a) p = mem (compl a) p ∧ mem (mkStat a x) p = mem (stat a x) p := by
  simp [C18_mem_eq_den, den_mkOr, den_mkAnd, den_mkCompl, den_mkStat, den]

/-- `extend`: the prefix must match (wildcards match anything), the rest is judged by `s`. -/
theorem C18_mem_extend (s : Sel) (addrs : List XAddr) (p : List String) :
    mem (extend s addrs) p = (matchPrefix addrs p && mem s (p.drop addrs.length)) := by
  induction addrs generalizing p with
  | nil => exact (Bool.true_and _).symm
  | cons a as ih =>
    have h : extend s (a :: as) = mkStat (extend s as) a := rfl
    rw [h, C18_mem_eq_den, den_mkStat]
    cases p with
    | nil => rfl
    | cons x q =>
      simp only [den, matchPrefix, List.length_cons, List.drop_succ_cons]
      rw [← C18_mem_eq_den, ih q, Bool.and_assoc]

/-- `Selection.at[a1, …, an]` (n ≥ 1) selects exactly the addresses having that prefix;
    `Selection.at[()]` is `leaf`. -/
theorem C18_mem_at (addrs : List XAddr) (p : List String) :
    mem (atAddr addrs) p = if addrs.isEmpty then p.isEmpty else matchPrefix addrs p := by
  unfold atAddr
  split
  · exact C18_mem_leaf p
  · rw [C18_mem_extend]; simp [C18_mem_all]

theorem C18_de_morgan (a b : Sel) (p : List String) :
    mem (mkCompl (mkOr a b)) p = mem (mkAnd (mkCompl a) (mkCompl b)) p ∧
    mem (mkCompl (mkAnd a b)) p = mem (mkOr (mkCompl a) (mkCompl b)) p := by
  simp [C18_mem_compl, C18_mem_or, C18_mem_and]

theorem C18_compl_involutive (s : Sel) (p : List String) : mem (mkCompl (mkCompl s)) p = mem s p := by
  simp [C18_mem_compl]

theorem C18_excluded_middle (s : Sel) (p : List String) :
    mem (mkOr s (mkCompl s)) p = true ∧ mem (mkAnd s (mkCompl s)) p = false := by
  simp [C18_mem_compl, C18_mem_or, C18_mem_and]

theorem C18_distrib (a b c : Sel) (p : List String) :
    mem (mkAnd a (mkOr b c)) p = mem (mkOr (mkAnd a b) (mkAnd a c)) p := by
  simp [C18_mem_or, C18_mem_and, Bool.and_or_distrib_left]

theorem C18_comm_assoc_idem (a b c : Sel) (p : List String) :
    mem (mkOr a b) p = mem (mkOr b a) p ∧ mem (mkAnd a b) p = mem (mkAnd b a) p ∧
    mem (mkOr (mkOr a b) c) p = mem (mkOr a (mkOr b c)) p ∧
    mem (mkAnd (mkAnd a b) c) p = mem (mkAnd a (mkAnd b c)) p ∧
    mem (mkOr a a) p = mem a p ∧ mem (mkAnd a a) p = mem a p := by
  simp [C18_mem_or, C18_mem_and, Bool.or_comm, Bool.and_comm, Bool.or_assoc, Bool.and_assoc]

/-! Non-vacuity / sanity: concrete evaluations of the model (these are tests, labelled as such). -/
example : mem (mkOr (atAddr [some "x"]) (mkCompl (atAddr [Option.none, some "y"]))) ["z", "y"] = false := by decide +kernel
example : mem (mkAnd (atAddr [some "x"]) (mkCompl (atAddr [some "x", some "y"]))) ["x", "z"] = true := by decide +kernel
example : mkAnd (atAddr [some "x"]) (atAddr [some "x"]) = atAddr [some "x"] := by decide +kernel

end GenjaxVerif.Sel
