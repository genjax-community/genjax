import GenjaxVerif.Lemmas.GFIKept
import GenjaxVerif.Props.GFITest
/-!
# C07 — regenerate resamples exactly the selected choices
-/
namespace GenjaxVerif.GFI
open GenjaxVerif

/-- Weight convention of this library: `new score − old score`, for every program supporting
    Regenerate, every selection and key, every previous trace of the program's shape. -/
theorem C07_regenerate_weight (ds : DistSem) (p : Prog) (i : In) (r : Res) (told : Trace)
    (h : run ds .regen p i = .ok r) (ho : i.old = some told) (hs : Shape p told) :
    r.w = r.tr.score - told.score :=
  regen_w ds p i r told h ho hs

/-- Every unselected choice keeps its value (for every program supporting Regenerate, selection,
    key and previous trace of the program's shape; index levels are transparent to selections). -/
theorem C07_unselected_unchanged (ds : DistSem) (p : Prog) (i : In) (r : Res) (told : Trace)
    (h : run ds .regen p i = .ok r) (ho : i.old = some told) (hs : Shape p told) :
    KeptS i.sel told r.tr :=
  regen_kept ds p i r told h ho hs

/-- At a primitive choice: selected ⇒ redrawn from the prior at the CURRENT arguments with the
    key handed to this site, and the old value goes to the backward constraint; unselected ⇒ the
    value is kept (and rescored under the current arguments). -/
theorem C07_leaf_regenerate (ds : DistSem) (d : Nat) (i : In) (r : Res) (d' a ov olp)
    (ho : i.old = some (.dist d' a ov olp)) (h : leaf ds .regen d i = .ok r) :
    (i.sel.check = true →
      r.tr = .dist d i.args (ds.sample d i.key i.args) (ds.lp d (ds.sample d i.key i.args) i.args) ∧
      r.bwd = [([], .plain ov)]) ∧
    (i.sel.check = false → r.tr = .dist d i.args ov (ds.lp d ov i.args) ∧ r.bwd = []) := by
  cases (leaf_regen ho).symm.trans h
  exact ⟨fun hc => by simp [hc], fun hc => by simp [hc]⟩

/-- mask and switch reject Regenerate (the implementation asserts `isinstance(request, Update)`). -/
theorem C07_mask_switch_not_supported (ds : DistSem) (p : Prog) (ps : List Prog) (i : In) :
    (∀ r, run ds .regen (.mask p) i ≠ .ok r) ∧ (∀ r, run ds .regen (.switch ps) i ≠ .ok r) := by
  exact ⟨fun _ => run_mask_regen, fun _ => run_switch_regen⟩

/-- vmap (hence repeat) rejects Regenerate too: `Vmap.edit` accepts `Update` and `IndexRequest` only. -/
theorem C07_vmap_not_supported (ds : DistSem) (p : Prog) (axes : List Ax) (i : In) :
    ∀ r, run ds .regen (.vmap p axes) i ≠ .ok r := by
  intro r h
  obtain ⟨as, _, has, _⟩ := vmapRun_ok.1 h
  exact (vmapArgs_ok.1 has).1 rfl

end GenjaxVerif.GFI
