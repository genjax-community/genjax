import GenjaxVerif.Model.Infer
import GenjaxVerif.Model.FinProbInfer
/-!
# C25 — Marginal is an unbiased density sampler for the selected choices

Log domain, abstract interface: what weight `Marginal.random_weighted` returns
(`C25_marginal_weight_spec`), the all-selected case (`C25_all_selected_*`), what the
algorithm branch hands to the algorithm (`C25_with_algorithm_spec`).
Probability domain, finite trees over ℚ: the stochastic-probability-interface identity
`E[exp(−w) · 1{X = x}] = 1` for every selected outcome `x` of positive probability
(`C25_full`), REFUTED for the pinned code, which projects on the complement of the selection
(`C25_refuted`).
-/
namespace GenjaxVerif.Infer

variable {B U : Type}

/-- Without an algorithm `random_weighted(key, *args)` simulates with `child k 1`, returns the
    selected part of the choices, and the weight `project(tr, S)` where `S` is the marginal's
    selection in the repaired code and its COMPLEMENT in the pinned code. -/
theorem C25_marginal_weight_spec (v : Variant) (g : GF B U) (sel : Sel) (k : Key) (args : B) :
    (Marginal.randomWeighted v ⟨g, sel, Option.none⟩ k args) =
      .ok (some (.exact (g.project (g.simulate (child k 1) args) (if v.margFix then sel else sel.compl))),
           filter sel (g.choices (g.simulate (child k 1) args))) := by
  simp only [Marginal.randomWeighted]
  cases v.margFix <;> rfl

/-- The all-selected case at full strength: the weight is the trace's score and equals
    `estimate_logpdf` of the returned sample.  Interface laws used: projecting on everything
    gives the score; `generate` under a full constraint returns the score as weight. -/
def C25_all_selected_full (v : Variant) : Prop :=
  ∀ (B U : Type) (g : GF B U) (k k' : Key) (args : B),
    (∀ tr, g.project tr Sel.all = g.score tr) →
    (∀ tr, g.project tr Sel.none = 0) →
    (∀ tr kk, (g.generate kk (g.choices tr) args).2 = g.score tr) →
    let tr := g.simulate (child k 1) args
    Marginal.randomWeighted v ⟨g, Sel.all, Option.none⟩ k args
        = .ok (some (.exact (g.score tr)), filter Sel.all (g.choices tr))
    ∧ (filter Sel.all (g.choices tr) = g.choices tr →
       Marginal.estimateLogpdf v ⟨g, Sel.all, Option.none⟩ k' (filter Sel.all (g.choices tr)) args true
         = .ok (.exact (g.score tr)))

theorem filter_all (c : Chm) : filter Sel.all c = c := by
  simp [filter, Sel.mem, Sel.all]

theorem C25_all_selected_repaired (v : Variant) (hv : v.margFix = true) : C25_all_selected_full v := by
  intro B U g k k' args hall _ hgen
  refine ⟨?_, ?_⟩
  · rw [C25_marginal_weight_spec, hv, if_pos rfl, hall]
  · intro _
    simp only [Marginal.estimateLogpdf, filter_all, hgen]
    cases v.annotFix <;> rfl

/-- Witness: one address with log-density 5. -/
def mG : GF Unit Int :=
  { simulate := fun _ _ => 1, assess := fun _ _ => 5, generate := fun _ _ _ => (1, 5)
    project := fun _ s => if s.mem "x" then 5 else 0, update := fun _ t _ => (t, 0, [])
    choices := fun t => [("x", t)], score := fun _ => 5 }

/-- Pinned code, everything selected: the weight is 0, not the score 5. -/
example : Marginal.randomWeighted Variant.pinned ⟨mG, Sel.all, Option.none⟩ [] () = .ok (some (.exact 0), [("x", 1)]) :=
  rfl

theorem C25_all_selected_refuted : ¬ C25_all_selected_full Variant.pinned := by
  intro h
  -- the two sides evaluate to `.exact 0` (the example above) and `.exact 5`
  have := (h Unit Int mG [] [] () (fun _ => rfl) (fun _ => rfl) (fun _ _ => rfl)).1
  cases this

/-- Partial theorem for the pinned code: it is right exactly when the complement's projection
    equals the selection's projection (e.g. programs whose selected and unselected sites have
    equal total log-density; never the all-selected case unless the score is 0). -/
theorem C25_marginal_weight_partial (v : Variant) (g : GF B U) (sel : Sel) (k : Key) (args : B)
    (h : g.project (g.simulate (child k 1) args) sel.compl = g.project (g.simulate (child k 1) args) sel) :
    (Marginal.randomWeighted v ⟨g, sel, Option.none⟩ k args) =
      .ok (some (.exact (g.project (g.simulate (child k 1) args) sel)),
           filter sel (g.choices (g.simulate (child k 1) args))) := by
  rw [C25_marginal_weight_spec]
  cases v.margFix
  · rw [if_neg Bool.false_ne_true, h]
  · rfl

example : mG.project (mG.simulate (child [] 1) ()) (⟨false, ["y"]⟩ : Sel).compl
    = mG.project (mG.simulate (child [] 1) ()) ⟨false, ["y"]⟩ → False := by decide +kernel

/-- With an algorithm: the target is (gen_fn, args, selected choices); the algorithm's
    `estimate_reciprocal_normalizing_constant` receives the key `child (child k 0) 0`, the
    UNSELECTED choices as the retained latents and `project(tr, ~selection)` as their weight. -/
theorem C25_with_algorithm_spec (v : Variant) (g : GF B U) (sel : Sel) (alg : Alg B U) (k : Key) (args : B) :
    let tr := g.simulate (child k 1) args
    Marginal.randomWeighted v ⟨g, sel, some alg⟩ k args =
      (alg.estimateReciprocalNormalizingConstant v (child (child k 0) 0) ⟨g, args, filter sel (g.choices tr)⟩
        (filter sel.compl (g.choices tr)) (g.project tr sel.compl)).map
        (fun z => (z, filter sel (g.choices tr))) := by
  simp only [Marginal.randomWeighted]
  cases alg.estimateReciprocalNormalizingConstant v (child (child k 0) 0)
      ⟨g, args, filter sel (g.choices (g.simulate (child k 1) args))⟩
      (filter sel.compl (g.choices (g.simulate (child k 1) args)))
      (g.project (g.simulate (child k 1) args) sel.compl) <;> rfl

/-- `Marginal.estimate_logpdf` without algorithm is the `generate` weight of the sample; with
    an algorithm it is the algorithm's normalising-constant estimate for the target
    (gen_fn, args, sample). -/
theorem C25_estimate_logpdf_spec (v : Variant) (g : GF B U) (sel : Sel) (k : Key) (x : Chm) (args : B)
    (hv : v.annotFix = true) (b : Bool) :
    Marginal.estimateLogpdf v ⟨g, sel, Option.none⟩ k x args b = .ok (.exact (g.generate k x args).2) ∧
    ∀ alg, Marginal.estimateLogpdf v ⟨g, sel, some alg⟩ k x args b
      = .ok (alg.estimateNormalizingConstant v k ⟨g, args, x⟩) := by
  simp only [Marginal.estimateLogpdf, hv]
  exact ⟨rfl, fun _ => rfl⟩

/-- Pinned annotation `*args: tuple[Any, ...]`: any non-tuple positional argument is rejected. -/
theorem C25_estimate_logpdf_annotation (v : Variant) (hv : v.annotFix = false) (m : Marginal B U) (k : Key)
    (x : Chm) (args : B) : Marginal.estimateLogpdf v m k x args false = .error .typeError := by
  simp [Marginal.estimateLogpdf, hv]

end GenjaxVerif.Infer

namespace GenjaxVerif.FinProbInfer

/-- The stochastic-probability-interface requirement for `Marginal.random_weighted` on finite
    trees, in unnormalised form: for every selected outcome `x` of positive marginal
    probability, `E[exp(−w) · 1{X = x}] = P(X = x) · (1 / p(x)) = 1`.
    `proj sel` is the selection the code hands to `project`. -/
def C25_full (proj : (Nat → Bool) → (Nat → Bool)) : Prop :=
  ∀ (t : Tree) (sel : Nat → Bool) (x : Asg),
    expect (margD t sel (proj sel)) (fun r => if r.1 = x then 1 else 0) ≠ 0 →
    expect (margD t sel (proj sel)) (fun r => if r.1 = x then 1 / r.2 else 0) = 1

/-- flip–flip: `x ~ flip(1/2)` at address 0, `y ~ flip(x ? 9/10 : 3/10)` at address 1. -/
def ff : Tree :=
  .choose 0 [(1, 1/2), (0, 1/2)] (fun x => .choose 1 (if x = 1 then [(1, 9/10), (0, 1/10)] else [(1, 3/10), (0, 7/10)]) (fun _ => .ret))

/-- The pinned code (projection on the complement) violates the SPI identity: selecting
    everything gives weight 1 (log-weight 0), so `E[exp(−w) 1{X = (1,1)}] = 9/20 ≠ 1`. -/
theorem C25_refuted : ¬ C25_full (fun sel a => !sel a) := by
  intro h
  have := h ff (fun _ => true) [(0, 1), (1, 1)] (by decide +kernel)
  revert this
  decide +kernel

/-- Instances of the identity for the repaired code (tests on concrete trees, not the general theorem). -/
example : expect (margD ff (fun a => a == 1) (fun a => a == 1)) (fun r => if r.1 = [(1, 1)] then 1 / r.2 else 0) = 1 := by
  decide +kernel
example : expect (margD ff (fun a => a == 0) (fun a => a == 0)) (fun r => if r.1 = [(0, 0)] then 1 / r.2 else 0) = 1 := by
  decide +kernel
example : expect (margD ff (fun _ => true) (fun _ => true)) (fun r => if r.1 = [(0, 1), (1, 0)] then 1 / r.2 else 0) = 1 := by
  decide +kernel
example : expect (margD ff (fun a => a == 1) (fun a => a == 1)) (fun r => if r.1 = [(1, 1)] then 1 else 0) = 3/5 := by
  decide +kernel

end GenjaxVerif.FinProbInfer
