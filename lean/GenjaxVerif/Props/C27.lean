import GenjaxVerif.Lemmas.Infer
/-!
# C27 — Rejuvenate returns the Metropolis–Hastings log acceptance ratio

`Infer.rejuvenate` is `Rejuvenate.edit` written over the abstract interface `GF`.  The
property: for EVERY model `p` (obeying the Update law), EVERY proposal `q`, argument mapping,
key and trace, the returned weight is

    log p(x') + log q(x | x') − log p(x) − log q(x' | x)

where the backward density `q(x | x')` is assessed at the old values of the proposed
addresses (the discard of the update) with arguments computed from the NEW trace.

On the pinned tree the backward arguments are computed from the discard instead
(`self.argument_mapping(bwd_chm)`), so the full statement is false of the faithful model
(`C27_refuted`); it is proved for the repaired line (`C27_rejuvenate_weight_repaired`) and,
for the pinned code, under the hypothesis that the mapping gives the same arguments on the
discard and on the new choices (`C27_rejuvenate_weight_partial`; e.g. constant mappings).
-/
namespace GenjaxVerif.Infer

/-- The required weight, every term taken from the interface:
    `score(new) + assess_q(discard; argmap(choices new)) − score(old) − score_q(proposal trace)`. -/
def mhLogRatio {A T QA U : Type} (p : GF A T) (q : GF QA U) (argmap : Chm → QA) (k : Key) (tr : T) : Int :=
  let ptr := q.simulate (child k 1) (argmap (p.choices tr))
  let upd := p.update (child k 0) tr (q.choices ptr)
  p.score upd.1 + q.assess upd.2.2 (argmap (p.choices upd.1)) - p.score tr - q.score ptr

/-- The property at full strength, for the code variant `v`. -/
def C27_full (v : Variant) : Prop :=
  ∀ (A T QA U : Type) (p : GF A T) (ok : T → Prop) (q : GF QA U) (argmap : Chm → QA) (k : Key) (tr : T),
    UpdateLawful p ok → ok tr → (rejuvenate v p q argmap k tr).2 = mhLogRatio p q argmap k tr

/-- Full theorem for the repaired line (`bwd_proposal_args = argument_mapping(new_tr.get_choices())`). -/
theorem C27_rejuvenate_weight_repaired (v : Variant) (hv : v.rejuvFix = true) : C27_full v := by
  intro A T QA U p ok q argmap k tr hl htr
  have := rejuvenate_weight v p q argmap k tr (hl.weight _ tr _ htr)
  rwa [hv] at this

/-- What the pinned code returns: the backward arguments come from the discard. -/
theorem C27_weight_as_written {A T QA U : Type} (v : Variant) (hv : v.rejuvFix = false) (p : GF A T)
    (ok : T → Prop) (q : GF QA U) (argmap : Chm → QA) (k : Key) (tr : T) (hl : UpdateLawful p ok) (htr : ok tr) :
    let ptr := q.simulate (child k 1) (argmap (p.choices tr))
    let upd := p.update (child k 0) tr (q.choices ptr)
    (rejuvenate v p q argmap k tr).2
      = p.score upd.1 + q.assess upd.2.2 (argmap upd.2.2) - p.score tr - q.score ptr := by
  have := rejuvenate_weight v p q argmap k tr (hl.weight _ tr _ htr)
  rwa [hv] at this

/-- Partial theorem for the pinned code: whenever the argument mapping yields the same
    proposal arguments on the discard as on the new trace's choices (in particular for every
    constant mapping), the weight is the MH log ratio. -/
theorem C27_rejuvenate_weight_partial {A T QA U : Type} (v : Variant) (p : GF A T) (ok : T → Prop)
    (q : GF QA U) (argmap : Chm → QA) (k : Key) (tr : T) (hl : UpdateLawful p ok) (htr : ok tr)
    (hsame :
      let upd := p.update (child k 0) tr (q.choices (q.simulate (child k 1) (argmap (p.choices tr))))
      argmap upd.2.2 = argmap (p.choices upd.1)) :
    (rejuvenate v p q argmap k tr).2 = mhLogRatio p q argmap k tr := by
  have := rejuvenate_weight v p q argmap k tr (hl.weight _ tr _ htr)
  simp only at this hsame
  rwa [hsame, ite_self] at this

/-- The returned trace holds the proposed choices: it is the update of the old trace by
    exactly the choices the proposal made with `sub_key` on arguments computed from the OLD
    choices, performed with the other half of the split key. -/
theorem C27_proposed_choices {A T QA U : Type} (v : Variant) (p : GF A T) (q : GF QA U)
    (argmap : Chm → QA) (k : Key) (tr : T) :
    (rejuvenate v p q argmap k tr).1
      = (p.update (child k 0) tr (q.choices (q.simulate (child k 1) (argmap (p.choices tr))))).1 := by
  rfl

/-! ### Refutation witness for the pinned code

A one-address model `x` with `log p(x) = 10·x`, a random-walk proposal `x' = x + 1` with
`log q(x' ; a) = 3·a·x'`, argument mapping `a = chm["x"]`. -/

def wP : GF Unit Int :=
  { simulate := fun _ _ => 1, assess := fun c _ => 10 * (c.get "x").getD 0
    generate := fun _ c _ => ((c.get "x").getD 1, 0), project := fun t _ => 10 * t
    update := fun _ t c => ((c.get "x").getD t, 10 * (c.get "x").getD t - 10 * t, [("x", t)])
    choices := fun t => [("x", t)], score := fun t => 10 * t }

def wQ : GF Int Int :=
  { simulate := fun _ a => a + 1, assess := fun c a => 3 * a * (c.get "x").getD 0
    generate := fun _ _ a => (a + 1, 0), project := fun _ _ => 0
    update := fun _ t _ => (t, 0, []), choices := fun t => [("x", t)], score := fun t => 3 * (t - 1) * t }

def wArgmap (c : Chm) : Int := (c.get "x").getD 0

theorem wP_lawful : UpdateLawful wP (fun _ => True) :=
  ⟨fun _ _ _ _ => by simp [wP], fun _ _ _ _ => trivial⟩

/-- old x = 1, proposed x' = 2: required 10·2 + 3·2·1 − 10·1 − 3·1·2 = 10, pinned code gives
    10·2 + 3·1·1 − 10 − 6 = 7. -/
example : (rejuvenate Variant.pinned wP wQ wArgmap [] 1).2 = 7 ∧ mhLogRatio wP wQ wArgmap [] 1 = 10 := by decide

theorem C27_refuted : ¬ C27_full Variant.pinned := by
  intro h
  have := h Unit Int Int Int wP (fun _ => True) wQ wArgmap [] 1 wP_lawful trivial
  revert this
  decide

/-- Non-vacuity of the partial theorem's hypothesis: a constant argument mapping. -/
example : (rejuvenate Variant.pinned wP wQ (fun _ => 5) [] 1).2 = mhLogRatio wP wQ (fun _ => 5) [] 1 :=
  C27_rejuvenate_weight_partial Variant.pinned wP (fun _ => True) wQ (fun _ => 5) [] 1 wP_lawful trivial rfl
example : (rejuvenate Variant.repaired wP wQ wArgmap [] 1).2 = 10 := by decide

/-- A trace of program `p`: one record per site. -/
def traceOf (p : Prog) (t : PTrace) : Prop := t.sites.length = p.length

theorem C27_prog_update_lawful (seed : Nat) (p : Prog) : UpdateLawful (progGF seed p) (traceOf p) := by
  constructor
  · intro k tr c h
    obtain ⟨news, _, hs, hw⟩ := updSites_spec c tr.args p tr.sites [] 0 [] h
    show (updSites c tr.args p tr.sites [] 0 []).2.1 = sumLp (updSites c tr.args p tr.sites [] 0 []).1 - sumLp tr.sites
    rw [hw, hs, Int.zero_add]
    rfl
  · intro k tr c h
    obtain ⟨news, hl, hs, _⟩ := updSites_spec c tr.args p tr.sites [] 0 [] h
    exact (congrArg List.length hs).trans hl

/-- Hence the repaired `Rejuvenate.edit` returns the MH log ratio on every straight-line
    model program, proposal program, argument mapping, key and trace. -/
theorem C27_prog_repaired (seed : Nat) (p : Prog) {QA U : Type} (q : GF QA U) (argmap : Chm → QA) (k : Key)
    (tr : PTrace) (h : traceOf p tr) :
    (rejuvenate Variant.repaired (progGF seed p) q argmap k tr).2 = mhLogRatio (progGF seed p) q argmap k tr :=
  C27_rejuvenate_weight_repaired Variant.repaired rfl _ _ _ _ _ _ _ _ _ _ (C27_prog_update_lawful seed p) h

end GenjaxVerif.Infer
