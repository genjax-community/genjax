import GenjaxVerif.Lemmas.Leapfrog
/-!
# C28 — HMC proposals follow leapfrog dynamics and return the MH log ratio

The model is `Model/Leapfrog.lean`.

`HMC.edit` AS WRITTEN does **not** follow leapfrog dynamics for `L ≥ 2`: its scan kernel
returns the stale `gradient` in the carry, so every first half-step after step 1 uses the
gradient of the INITIAL position.  Hence:

* `C28_full` (the as-written kernel equals leapfrog for every `L`, gradient, start) is kept
  as a `def`, `C28_refuted : ¬ C28_full` is proved by a concrete witness;
* what IS proved for the code as written: `C28_first_step_agrees`,
  `C28_asWritten_eq_leapfrog_partial` (`L ≤ 1`), `C28_asWritten_eq_leapfrog_partial_const`
  (constant gradient), all three cases of `asWritten_eq_leapfrog_of_grad` (the gradient at the
  leapfrog positions reached is the gradient at the start), and the exact description
  `C28_asWritten_characterisation`;
* for the one-token repair (`gradients` returned in the carry) the full statement holds:
  `C28_repaired_eq_leapfrog`;
* independent of the dynamics: `C28_alpha_def` (the weight the code computes is
  `H(start) − H(end)`), `C28_alpha_flip_invariant`, `C28_unselected_fixed`,
  `C28_trace_level_asWritten` / `C28_trace_level_repaired` (the kernel that threads the
  trace is the abstract kernel on `(q, grad, p)`), and for the textbook integrator
  `C28_leapfrog_reversible`.

Outside the model: volume preservation of the leapfrog map and the measure-theoretic step
from (reversible + volume preserving + weight `H(start) − H(end)`) to invariance of the
target under accept/reject; automatic differentiation (`g` is an oracle); floating point.
-/
namespace GenjaxVerif.Leapfrog

section Structural
variable {R : Type} [Add R] [Mul R]

/-- Repaired kernel = textbook leapfrog, for every number of steps, step size, gradient
    oracle and start (induction on `L`, invariant "carried gradient = g (current q)"). -/
theorem C28_repaired_eq_leapfrog (half eps : R) (g : List R → List R) (L : Nat) (q0 p0 : List R) :
    ((runRepaired half eps g L q0 p0).q, (runRepaired half eps g L q0 p0).p)
      = runSpec half eps g L q0 p0 := by
  refine (iterate_rel (fun (c : Carry R) s => (c.q, c.p) = s ∧ c.grad = g c.q) ?_ L ⟨rfl, rfl⟩).1
  rintro c _ ⟨rfl, hc⟩
  exact ⟨by simp [kernelRepaired, leapfrogSpec, hc], rfl⟩

/-- EXACT description of what the code computes: the gradient slot of the carry stays
    `g q0` for ever, and `(q, p)` evolve by `staleStep` — a leapfrog-shaped step whose first
    half-step uses `g q0` instead of `g (current q)`.  This is the statement the
    correspondence check ties to `HMC.edit`. -/
theorem C28_asWritten_characterisation (half eps : R) (g : List R → List R) (L : Nat) (q0 p0 : List R) :
    (runAsWritten half eps g L q0 p0).grad = g q0 ∧
    ((runAsWritten half eps g L q0 p0).q, (runAsWritten half eps g L q0 p0).p)
      = iterate (staleStep half eps g (g q0)) L (q0, p0) := by
  refine iterate_rel (fun (c : Carry R) s => c.grad = g q0 ∧ (c.q, c.p) = s) ?_ L ⟨rfl, rfl⟩
  rintro c _ ⟨hc, rfl⟩
  -- on a carry whose gradient slot holds `g q0`, `kernelAsWritten` unfolds to `staleStep … (g q0)`
  exact ⟨hc, hc ▸ rfl⟩

/-- The stale gradient does no harm for as long as the gradient at the leapfrog positions reached is the
    gradient at the start; the three partial statements below are the cases `L ≤ 1` and `g` constant. -/
theorem asWritten_eq_leapfrog_of_grad (half eps : R) (g : List R → List R) (L : Nat) (q0 p0 : List R)
    (hg : ∀ i, i < L → g (runSpec half eps g i q0 p0).1 = g q0) :
    ((runAsWritten half eps g L q0 p0).q, (runAsWritten half eps g L q0 p0).p)
      = runSpec half eps g L q0 p0 := by
  rw [(C28_asWritten_characterisation half eps g L q0 p0).2]
  exact iterate_staleStep half eps g (g q0) L (q0, p0) hg

/-- Partial: the code follows leapfrog when at most one step is taken. -/
theorem C28_asWritten_eq_leapfrog_partial (half eps : R) (g : List R → List R) (L : Nat) (q0 p0 : List R)
    (hL : L ≤ 1) :
    ((runAsWritten half eps g L q0 p0).q, (runAsWritten half eps g L q0 p0).p)
      = runSpec half eps g L q0 p0 :=
  -- the only position met is the start
  asWritten_eq_leapfrog_of_grad half eps g L q0 p0 fun _ hi =>
    Nat.eq_zero_of_le_zero (Nat.le_of_lt_succ (Nat.lt_of_lt_of_le hi hL)) ▸ rfl

/-- non-vacuity: `L = 1` satisfies the hypothesis. -/
example : (1 : Nat) ≤ 1 := Nat.le_refl 1

/-- The as-written kernel agrees with leapfrog on the first step (any `g`). -/
theorem C28_first_step_agrees (half eps : R) (g : List R → List R) (q0 p0 : List R) :
    ((runAsWritten half eps g 1 q0 p0).q, (runAsWritten half eps g 1 q0 p0).p)
      = runSpec half eps g 1 q0 p0 :=
  C28_asWritten_eq_leapfrog_partial half eps g 1 q0 p0 (Nat.le_refl 1)

/-- Partial: the code follows leapfrog for every `L` when the gradient is constant (flat or
    linear log-density on the selected coordinates). -/
theorem C28_asWritten_eq_leapfrog_partial_const (half eps : R) (g : List R → List R) (L : Nat)
    (q0 p0 : List R) (hg : ∀ q, g q = g q0) :
    ((runAsWritten half eps g L q0 p0).q, (runAsWritten half eps g L q0 p0).p)
      = runSpec half eps g L q0 p0 :=
  asWritten_eq_leapfrog_of_grad half eps g L q0 p0 fun _ _ => hg _

/-- non-vacuity: a constant gradient oracle. -/
example : ∀ q : List Int, (fun _ => [3, -1]) q = (fun _ => [3, -1]) [0, 0] := fun _ => rfl

end Structural

/-- Full strength: the as-written kernel follows leapfrog dynamics for all step counts,
    step sizes, gradient oracles and starts (over ℚ, `half = 1/2`). -/
def C28_full : Prop :=
  ∀ (L : Nat) (eps : Rat) (g : List Rat → List Rat) (q0 p0 : List Rat),
    ((runAsWritten (1/2) eps g L q0 p0).q, (runAsWritten (1/2) eps g L q0 p0).p)
      = runSpec (1/2) eps g L q0 p0

/-- The model of the code refutes it: standard-normal target (`log p = -q²/2`, `g q = -q`),
    `eps = 2`, `L = 2`, start `q = 1`, `p = 0`: leapfrog returns to `q = 1`, the code
    reaches `q = -3`. -/
theorem C28_refuted : ¬ C28_full := by
  intro h
  exact absurd (congrArg Prod.fst (h 2 2 vneg [1] [0])) (by decide +kernel)

section Algebra
variable {R : Type} [CommRing R]

/-- `alpha` as the code computes it (model-score difference plus standard-normal momenta
    scores, final momenta assessed with `mul = -1`) is `H(start) − H(end)`; the
    log-normaliser is an arbitrary parameter and cancels. -/
theorem C28_alpha_def (half lognorm finalScore origScore : R) (pFinal pOrig : List R)
    (hlen : pFinal.length = pOrig.length) :
    alphaCode half lognorm finalScore origScore pFinal pOrig
      = hamiltonian half origScore pOrig - hamiltonian half finalScore pFinal := by
  unfold alphaCode hamiltonian
  rw [assessMomenta_eq, assessMomenta_eq, hlen]
  ring

/-- non-vacuity: momenta vectors of equal length. -/
example : ([1, 2] : List Int).length = ([5, 7] : List Int).length := rfl

/-- Negating (or not) the final momenta before assessing them cannot change `alpha`. -/
theorem C28_alpha_flip_invariant (half lognorm finalScore origScore : R) (pFinal pOrig : List R) :
    alphaCode half lognorm finalScore origScore pFinal pOrig
      = finalScore - origScore + assessMomenta half lognorm 1 pFinal - assessMomenta half lognorm 1 pOrig := by
  unfold alphaCode
  rw [assessMomenta_eq, assessMomenta_eq _ _ 1 pFinal, neg_mul_neg (1 : R) 1]

/-- The textbook step is reversible: step, flip the momentum, step again, and you are back
    at the start with the momentum flipped (vectors of matching length). -/
theorem C28_leapfrog_reversible (half eps : R) (g : List R → List R) (q p : List R)
    (hg : ∀ q, (g q).length = q.length) (hp : p.length = q.length) :
    leapfrogSpec half eps g ((leapfrogSpec half eps g (q, p)).1, vneg (leapfrogSpec half eps g (q, p)).2)
      = (q, vneg p) := by
  simp only [leapfrogSpec]
  -- the way back undoes the way out in reverse order: second momentum half-step, position step, first half-step
  rw [vadd_vneg_vadd_cancel _ _ (by simp [hg, hp]), vadd_smul_vneg_cancel eps q _ (by simp [hg, hp]),
    vadd_vneg_vadd_cancel p _ (by simp [hg, hp])]

/-- non-vacuity: a length-preserving gradient and matching momentum. -/
example : (∀ q : List Int, (vneg q).length = q.length) ∧ ([4, 5] : List Int).length = ([1, 2] : List Int).length :=
  ⟨fun q => by simp [vneg], rfl⟩

end Algebra

section Trace
variable {R : Type} [Add R] [Mul R] [Neg R] [Sub R] [Zero R] [One R]

/-- Whatever the dynamics do (as written or repaired, any `L`, any momenta), every
    coordinate outside the selection keeps its value. -/
theorem C28_unselected_fixed (fresh : Bool) (half lognorm eps : R) (t : Target R) (mask : List Bool)
    (L : Nat) (x0 p0 : List R) :
    gather (mask.map (!·)) (hmcEdit fresh half lognorm eps t mask L x0 p0).x
      = gather (mask.map (!·)) x0 := by
  refine iterate_inv (fun c : TCarry R => gather (mask.map (!·)) c.x = gather (mask.map (!·)) x0)
    (f := kernelTrace fresh half eps t mask) ?_ L rfl
  -- the new choices are a `scatter` into the old ones
  exact fun c h => (gather_not_scatter mask c.x _).trans h

/-- The kernel that threads the trace through the scan (what the driver executes as the model
    of `HMC.edit`) IS the abstract as-written kernel on `(q, grad, p)` with the oracle
    `selOracle` — positions, momenta and the final choices — whenever the gradient has the
    shape of the choices and there is one momentum per selected coordinate. -/
theorem C28_trace_level_asWritten (half lognorm eps : R) (t : Target R) (mask : List Bool) (L : Nat)
    (x0 p0 : List R) (hgrad : ∀ x, (t.grad x).length = x.length)
    (hp : p0.length = (gather mask x0).length) :
    let r := runAsWritten half eps (selOracle t mask x0) L (gather mask x0) p0
    (hmcEdit false half lognorm eps t mask L x0 p0).x = scatter mask x0 r.q ∧
    (hmcEdit false half lognorm eps t mask L x0 p0).p = r.p := by
  simp only [hmcEdit, selectionGradient, (kernelTrace_iterate false half eps t mask L x0 p0 hgrad hp).1]
  exact ⟨rfl, rfl⟩

/-- Same for the repaired kernel; with `C28_repaired_eq_leapfrog` the repaired `HMC.edit`
    moves the selected coordinates exactly along the textbook trajectory. -/
theorem C28_trace_level_repaired (half lognorm eps : R) (t : Target R) (mask : List Bool) (L : Nat)
    (x0 p0 : List R) (hgrad : ∀ x, (t.grad x).length = x.length)
    (hp : p0.length = (gather mask x0).length) :
    (hmcEdit true half lognorm eps t mask L x0 p0).x = (hmcSpec half eps t mask L x0 p0).x ∧
    (hmcEdit true half lognorm eps t mask L x0 p0).p = (hmcSpec half eps t mask L x0 p0).p := by
  simp only [hmcEdit, hmcSpec, selectionGradient,
    (kernelTrace_iterate true half eps t mask L x0 p0 hgrad hp).1,
    ← C28_repaired_eq_leapfrog half eps (selOracle t mask x0) L (gather mask x0) p0]
  exact ⟨rfl, rfl⟩

/-- non-vacuity for the two trace-level theorems: a quadratic target on three coordinates,
    the middle one selected, one momentum. -/
example : (∀ x : List Int, ((fun (x : List Int) => x.map (· * 2)) x).length = x.length) ∧
    ([7] : List Int).length = (gather [false, true, false] ([1, 2, 3] : List Int)).length :=
  ⟨fun x => by simp, rfl⟩

end Trace

/-- At trace level, for the code as written AND for the repair: the returned weight is
    `H(start) − H(end)` evaluated with the trace scores and the momenta the kernel ends with. -/
theorem C28_alpha_trace {R : Type} [CommRing R] (fresh : Bool) (half lognorm eps : R) (t : Target R)
    (mask : List Bool) (L : Nat) (x0 p0 : List R) (hgrad : ∀ x, (t.grad x).length = x.length)
    (hp : p0.length = (gather mask x0).length) :
    (hmcEdit fresh half lognorm eps t mask L x0 p0).alpha
      = hamiltonian half (t.logp x0) p0
        - hamiltonian half (t.logp (hmcEdit fresh half lognorm eps t mask L x0 p0).x)
            (hmcEdit fresh half lognorm eps t mask L x0 p0).p := by
  obtain ⟨h, hw⟩ := kernelTrace_iterate fresh half eps t mask L x0 p0 hgrad hp
  simp only [hmcEdit, selectionGradient, h]
  exact C28_alpha_def _ _ _ _ _ _ (hw.2.2.trans hp.symm)

end GenjaxVerif.Leapfrog
