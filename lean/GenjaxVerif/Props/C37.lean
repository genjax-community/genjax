import GenjaxVerif.Lemmas.HMM
/-!
# C37 — DiscreteHMM posterior density and sampler are exact  (PARTIAL)

The model is `Model/HMM.lean` (an arbitrary finite HMM over ℚ in the probability domain), the
lemmas are in `Lemmas/HMM.lean`.  Every theorem is for ALL state counts, ALL sequence lengths and ALL
rational matrices satisfying the stated (decidable) hypotheses — induction on the observation
sequence; nothing is bounded.

What is proved
* `estimate_logpdf`'s scan computes the joint `p(x, y)`; dividing by the marginal likelihood
  gives a density that sums to one over all latent sequences;
* the forward recursion's total mass is the marginal likelihood (`data_logpdf`'s specification);
* forward-filtering-backward-sampling returns `seq` with probability exactly
  `seqPosterior seq` — for the forward pass AS WRITTEN only when the transition matrix is
  symmetric (`C37_ffbs_eq_posterior_partial`); the full statement is refuted on an asymmetric
  matrix (`C37_refuted`), and holds without that hypothesis for the one-line repaired forward
  pass (`C37_ffbs_repaired_eq_posterior`);
* the configuration's `scaled_circulant` logits are symmetric whenever `2·k ≤ N`.

What is outside the model: TFP's `HiddenMarkovModel.log_prob` (its specification `dataLik` is
used instead; tied numerically), `softmax`/`exp`/`log` and float32 log-domain arithmetic,
`jax.random.categorical`'s actual sampling (its law is taken to be `categorical`), PRNG quality.
-/
namespace GenjaxVerif.HMM

/-- The scan `_inner` in `latent_sequence_posterior` (carry = next row of the transition
    matrix) computes the chain-rule joint `init[x₀]·obs[x₀,y₀]·Π trans[x_{t-1},x_t]·obs[x_t,y_t]`. -/
theorem C37_estimate_logpdf_spec (h : Hmm) (seq ys : List Nat) :
    scanJoint h seq ys = joint h seq ys :=
  scanJoint_eq_joint h seq ys

/-- `estimate_logpdf` is `joint / dataLik` exactly when the sequence is non-empty and the
    lengths agree, … -/
theorem C37_estimate_ok (h : Hmm) (seq ys : List Nat) (h0 : ys.length ≠ 0)
    (hl : seq.length = ys.length) :
    estimate h seq ys = .ok (joint h seq ys / dataLik h ys) := by
  simp [estimate, h0, hl, seqPosterior, scanJoint_eq_joint]

/-- … and an error otherwise (never a silent number): TFP's `num_steps ≥ 1` check, then the
    scan's length check. -/
theorem C37_estimate_errors (h : Hmm) (seq ys : List Nat) :
    (ys.length = 0 → estimate h seq ys = .error .emptySequence) ∧
    (ys.length ≠ 0 → seq.length ≠ ys.length → estimate h seq ys = .error .lengthMismatch) := by
  constructor
  · intro h0; simp [estimate, h0]
  · intro h0 hl; simp [estimate, h0, hl]

/-- `data_logpdf`'s specification is the brute-force marginal likelihood `Σ_seq joint seq ys`. -/
theorem C37_data_logpdf_spec (h : Hmm) (ys : List Nat) (h0 : ys.length ≠ 0) :
    dataLogpdf h ys = .ok (((allSeqs h.n ys.length).map fun s => joint h s ys).sum) := by
  simp [dataLogpdf, h0, dataLik]

/-- The table the driver prints is `seqPosterior` of every sequence. -/
theorem C37_posteriorTable_spec (h : Hmm) (ys : List Nat) :
    posteriorTable h ys = (allSeqs h.n ys.length).map fun s => seqPosterior h s ys := rfl

/-- The posterior density is normalised over ALL latent sequences of the right length. -/
theorem C37_posterior_normalised (h : Hmm) (ys : List Nat) (hZ : dataLik h ys ≠ 0) :
    ((allSeqs h.n ys.length).map fun s => seqPosterior h s ys).sum = 1 := by
  simp only [seqPosterior, scanJoint_eq_joint]
  rw [sum_map_div]
  exact div_self hZ

/-- Strict positivity of the tensors (true of every `softmax` output) makes the marginal
    likelihood positive, so the normalisation hypothesis above is met. -/
theorem C37_dataLik_pos (h : Hmm) (m : Nat) (hp : h.pos m = true) (hn : 0 < h.n) (ys : List Nat)
    (hys : ∀ y ∈ ys, y < m) : 0 < dataLik h ys :=
  dataLik_pos hp hn hys

/-- Forward pass as written: its total mass `Σ_x α_T(x)` is the marginal likelihood
    `Σ_seq joint seq ys` — PROVIDED the transition matrix is symmetric (the code sums
    `prev[j]·T[i,j]` where the recursion needs `prev[j]·T[j,i]`). -/
theorem C37_forward_total (h : Hmm) (ys : List Nat) (hs : h.symm = true) :
    forwardTotal .asWritten h ys = dataLik h ys :=
  forwardTotal_eq_dataLik (fwdOK_asWritten hs) ys

/-- The repaired forward pass needs no hypothesis at all. -/
theorem C37_forward_total_repaired (h : Hmm) (ys : List Nat) :
    forwardTotal .textbook h ys = dataLik h ys :=
  forwardTotal_eq_dataLik (fwdOK_textbook h) ys

/-- Full statement for the code as it is: FFBS (the sampler of `random_weighted`) returns every
    latent sequence with exactly its posterior probability, for every strictly positive HMM. -/
def C37_ffbs_full : Prop :=
  ∀ (h : Hmm) (m : Nat) (ys seq : List Nat), h.pos m = true → (∀ y ∈ ys, y < m) →
    seq ∈ allSeqs h.n ys.length → ffbsProb .asWritten h ys seq = seqPosterior h seq ys

/-- Proved part: the same statement under the explicit decidable hypothesis `h.symm`.
    Missing: asymmetric transition matrices — there the statement is FALSE of the code
    (`C37_refuted`).  `DiscreteHMMConfiguration` yields an asymmetric matrix exactly when
    `N ≥ 3`, `2·adjacency_distance_trans > N` and `sigma_trans ≠ 1` (see `C37_config_trans_symm`). -/
theorem C37_ffbs_eq_posterior_partial (h : Hmm) (m : Nat) (ys seq : List Nat) (hs : h.symm = true)
    (hp : h.pos m = true) (hys : ∀ y ∈ ys, y < m) (hseq : seq ∈ allSeqs h.n ys.length) :
    ffbsProb .asWritten h ys seq = seqPosterior h seq ys :=
  ffbsProb_eq_seqPosterior (fwdOK_asWritten hs) hp hys hseq

/-- With the one-line repair of `t_branch` the full statement holds (no symmetry needed). -/
theorem C37_ffbs_repaired_eq_posterior (h : Hmm) (m : Nat) (ys seq : List Nat)
    (hp : h.pos m = true) (hys : ∀ y ∈ ys, y < m) (hseq : seq ∈ allSeqs h.n ys.length) :
    ffbsProb .textbook h ys seq = seqPosterior h seq ys :=
  ffbsProb_eq_seqPosterior (fwdOK_textbook h) hp hys hseq

/-- The table `ffbsDist` lists every latent sequence once with its posterior probability, and
    (hence) is a probability distribution. -/
theorem C37_ffbsDist_eq_posterior (h : Hmm) (m : Nat) (ys : List Nat) (hs : h.symm = true)
    (hp : h.pos m = true) (hn : 0 < h.n) (hys : ∀ y ∈ ys, y < m) :
    ffbsDist .asWritten h ys = (allSeqs h.n ys.length).map (fun s => (s, seqPosterior h s ys)) ∧
    ((ffbsDist .asWritten h ys).map (·.2)).sum = 1 := by
  have e : ffbsDist .asWritten h ys = (allSeqs h.n ys.length).map (fun s => (s, seqPosterior h s ys)) :=
    List.map_congr_left fun s hsq => by
      rw [← C37_ffbs_eq_posterior_partial h m ys s hs hp hys hsq]; rfl
  refine ⟨e, ?_⟩
  rw [e, List.map_map]
  exact C37_posterior_normalised h ys (dataLik_pos hp hn hys).ne'

/-- Witness: 3 states, the circulant of the asymmetric column `(1/2, 1/6, 1/3)` (what
    `DiscreteHMMConfiguration(3, 2, …)` produces up to the values), prior = row `int(3/2) = 1`. -/
def C37_witness : Hmm :=
  { init := [1/6, 1/2, 1/3],
    trans := [[1/2, 1/3, 1/6], [1/6, 1/2, 1/3], [1/3, 1/6, 1/2]],
    obs := [[1/2, 1/4, 1/4], [1/4, 1/2, 1/4], [1/4, 1/4, 1/2]] }

/-- A symmetric, strictly positive, stochastic 3-state HMM (circulant of `(1/2, 1/4, 1/4)`). -/
def C37_symmetric_example : Hmm :=
  { init := [1/4, 1/2, 1/4],
    trans := [[1/2, 1/4, 1/4], [1/4, 1/2, 1/4], [1/4, 1/4, 1/2]],
    obs := [[2/3, 1/6, 1/6], [1/6, 2/3, 1/6], [1/6, 1/6, 2/3]] }

/-- On the witness the sampler as written returns `[0, 1]` with probability `4/55`, the
    posterior is `1/14`; the as-written forward total is `55/576`, the likelihood `7/72`. -/
theorem C37_witness_values :
    C37_witness.pos 3 = true ∧ C37_witness.stochastic 3 = true ∧ C37_witness.symm = false ∧
    ffbsProb .asWritten C37_witness [0, 2] [0, 1] = 4 / 55 ∧
    seqPosterior C37_witness [0, 1] [0, 2] = 1 / 14 ∧
    forwardTotal .asWritten C37_witness [0, 2] = 55 / 576 ∧
    dataLik C37_witness [0, 2] = 7 / 72 := by
  decide +kernel

/-- The full statement is false of the faithful model: symmetry is needed by the code as written. -/
theorem C37_refuted : ¬ C37_ffbs_full := by
  intro hfull
  obtain ⟨hp, _, _, hf, hs, _, _⟩ := C37_witness_values
  have := hfull C37_witness 3 [0, 2] [0, 1] hp (by decide) (mem_allSeqs.mpr ⟨rfl, by decide⟩)
  rw [hf, hs] at this
  exact absurd this (by decide +kernel)

/-- … and so is the as-written forward total without symmetry. -/
theorem C37_refuted_without_symmetry :
    ¬ (∀ (h : Hmm) (ys : List Nat), forwardTotal .asWritten h ys = dataLik h ys) := by
  intro hall
  obtain ⟨_, _, _, _, _, hf, hd⟩ := C37_witness_values
  have := hall C37_witness [0, 2]
  rw [hf, hd] at this
  exact absurd this (by decide +kernel)

/-- Non-vacuity: the hypotheses of the partial theorems hold of a non-trivial HMM, a
    non-trivial observation sequence and every latent sequence; the values are not degenerate. -/
example : C37_symmetric_example.symm = true ∧ C37_symmetric_example.pos 3 = true ∧
    C37_symmetric_example.stochastic 3 = true ∧ 0 < C37_symmetric_example.n ∧
    (∀ y ∈ [0, 2, 1], y < 3) ∧ [1, 2, 2] ∈ allSeqs C37_symmetric_example.n [0, 2, 1].length ∧
    dataLik C37_symmetric_example [0, 2, 1] ≠ 0 ∧
    ffbsProb .asWritten C37_symmetric_example [0, 2, 1] [1, 2, 2] ≠ 0 ∧
    ffbsProb .asWritten C37_symmetric_example [0, 2, 1] [1, 2, 2]
      ≠ ffbsProb .asWritten C37_symmetric_example [0, 2, 1] [2, 2, 1] := by
  decide +kernel

/-- A *test* (not the theorem): the instance of `C37_ffbs_eq_posterior_partial` by evaluation. -/
example : ffbsProb .asWritten C37_symmetric_example [0, 2, 1] [1, 2, 2]
    = seqPosterior C37_symmetric_example [1, 2, 2] [0, 2, 1] := by
  decide +kernel

example : estimate C37_symmetric_example [1, 2] [0, 2, 1] = .error .lengthMismatch ∧
    estimate C37_symmetric_example [] [] = .error .emptySequence ∧
    [0, 2, 1].length ≠ 0 ∧ [1, 2, 2].length = [0, 2, 1].length := by
  decide +kernel

/-- `scipy.linalg.circulant` of a column with `c[m] = c[N-m]` is a symmetric matrix. -/
theorem C37_circulant_symm (c : List Rat)
    (hc : ∀ m, 0 < m → m < c.length → vget c m = vget c (c.length - m)) (i j : Nat)
    (hi : i < c.length) (hj : j < c.length) : mget (circulant c) i j = mget (circulant c) j i :=
  circulant_symm c hc hi hj

/-- `scaled_circulant(N, k, ε, δ)` is symmetric whenever the truncation does not wrap around the
    ring (`2·k ≤ N`), for all ε, δ.  (Row-`softmax` preserves this: all rows of a circulant are
    permutations of one another and share one normaliser — that step involves `exp` and is
    checked numerically by the harness.) -/
theorem C37_config_trans_symm (N k : Nat) (e d : Rat) (hk : 2 * k ≤ N) (i j : Nat) (hi : i < N)
    (hj : j < N) :
    mget (circulant (source N k e d)) i j = mget (circulant (source N k e d)) j i := by
  have hl := length_source N k e d
  refine circulant_symm _ ?_ (hl.symm ▸ hi) (hl.symm ▸ hj)
  intro m h0 hm
  rw [hl] at hm ⊢
  exact source_symm N k e d hk h0 hm

/-- Non-vacuity / necessity: `N = 3, k = 2, ε = 1/2` wraps and is NOT symmetric. -/
example : mget (circulant (source 3 2 (1/2) 2)) 0 1 ≠ mget (circulant (source 3 2 (1/2) 2)) 1 0 := by
  decide +kernel

example : (2 * 2 ≤ 5) ∧ circulant (source 5 2 (1/2) 2) =
    [[1, 1/2, 1/4, 1/4, 1/2], [1/2, 1, 1/2, 1/4, 1/4], [1/4, 1/2, 1, 1/2, 1/4],
     [1/4, 1/4, 1/2, 1, 1/2], [1/2, 1/4, 1/4, 1/2, 1]] := by
  decide +kernel

end GenjaxVerif.HMM
