import GenjaxVerif.Lemmas.GFIWeights
import GenjaxVerif.Props.GFITest
/-!
# C03 — importance weights equal the log-density of the constrained choices
-/
namespace GenjaxVerif.GFI
open GenjaxVerif

/-- For every program, constraint, key and arguments: the weight `generate` returns is the sum of
    the log-densities of exactly those live choices of the returned trace whose address the
    constraint validly constrains (`cscore`); unconstrained choices contribute nothing. -/
theorem C03_generate_weight (ds : DistSem) (p : Prog) (i : In) (r : Res)
    (h : run ds .gen p i = .ok r) : r.w = cscore i.c r.tr :=
  gen_w ds p i r h

/-- The returned trace agrees with the constraint at every (validly) constrained address present
    in it: `Agrees` narrows the constraint along the address as `get_submap` does, and demands the
    constraint's value at every primitive choice it reaches. -/
theorem C03_trace_agrees_with_constraint (ds : DistSem) (p : Prog) (i : In) (r : Res)
    (h : run ds .gen p i = .ok r) : Agrees i.c r.tr :=
  run_agrees ds .gen (Or.inl rfl) p i r h

theorem C03_empty_constraint_weight_zero (ds : DistSem) (p : Prog) (i : In) (r : Res)
    (h : run ds .gen p i = .ok r) (hc : i.c = []) : r.w = 0 := by
  rw [gen_w ds p i r h, hc, cscore_nil]

/-- At a primitive choice: a validly constrained address takes the constraint's value and
    contributes its log-density; otherwise the value is drawn with this site's key and contributes 0.
    (A value under a mask with flag True counts as constrained, with flag False as absent: C35.) -/
theorem C03_leaf_generate (ds : DistSem) (d : Nat) (i : In) (r : Res) (h : leaf ds .gen d i = .ok r) :
    (∀ v, i.c.leaf = some (.plain v) ∨ i.c.leaf = some (.masked true v) →
      r.tr = .dist d i.args v (ds.lp d v i.args) ∧ r.w = ds.lp d v i.args) ∧
    ((i.c.leaf = none ∨ ∃ v, i.c.leaf = some (.masked false v)) →
      r.tr = .dist d i.args (ds.sample d i.key i.args) (ds.lp d (ds.sample d i.key i.args) i.args) ∧ r.w = 0) := by
  cases leaf_gen.symm.trans h
  refine ⟨?_, ?_⟩
  · rintro v (hc | hc) <;> simp [validValue, hc]
  · rintro (hc | ⟨v, hc⟩) <;> simp [validValue, hc]

/-- A constraint that validly covers every live choice gives weight equal to the score. -/
theorem C03_score_when_all_constrained (c : CMap) (d : Nat) (a : Val) (v lp : Int) (hv : validLeaf c = true) :
    cscore c (.dist d a v lp) = (Trace.dist d a v lp).score := by
  simp [cscore, hv, Trace.score]

/-- test -/
example : (run Test.ds .gen Test.prog1 { Test.in1 with c := [([.s "y", .i 1], .plain 7)] }).toOption.map
    (fun r => (r.w, r.tr.score)) = some (10 + 7 + 1, 1 + 13 + 18) := by decide +kernel

end GenjaxVerif.GFI
