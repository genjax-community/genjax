import GenjaxVerif.Lemmas.Infer
import GenjaxVerif.Lemmas.FinProbInfer
/-!
# C26 — Importance and SMC return properly weighted particles and unbiased evidence

Log-domain bookkeeping (over the abstract interface `GF`, every target, proposal, key):
particle weights, constraint satisfaction, `ChangeTarget` reweighting, `random_weighted`
returning only unconstrained choices, key routing.  Probability-domain unbiasedness (over
finite discrete trees on ℚ): `E[(1/K) Σ exp wᵢ] = Z` for every K ≥ 1 and every exact proposal
covering the support.

Refuted on the pinned tree: key independence of `ImportanceK.run_smc` (`C26_keys_refuted`).
-/
namespace GenjaxVerif.Infer
open Alg

variable {A T : Type}

/-- `Importance.run_smc` with a proposal: one particle, obtained by `generate` under
    (observations ∪ proposed choices) with key `child k 0`; its log-weight is that
    `generate` weight minus the weight reported by the proposal (run with key `child k 1`). -/
theorem C26_importance_weight (v : Variant) (t : Target A T) (q : SD A T) (k : Key) :
    runSmc v (importance t (some q)) k =
      [((t.p.generate (child k 0) (merge t.constraint (q.randomWeighted (child k 1) t).2) t.args).1,
        (t.p.generate (child k 0) (merge t.constraint (q.randomWeighted (child k 1) t).2) t.args).2
          - (q.randomWeighted (child k 1) t).1)] := rfl

/-- Without a proposal the log-weight is the `generate` weight of the observations. -/
theorem C26_importance_weight_no_proposal (v : Variant) (t : Target A T) (k : Key) :
    runSmc v (importance t Option.none) k =
      [((t.p.generate (child k 0) (merge t.constraint []) t.args).1,
        (t.p.generate (child k 0) (merge t.constraint []) t.args).2)] := by
  -- the code subtracts a proposal weight of `0`
  rw [← Int.sub_zero (t.p.generate (child k 0) (merge t.constraint []) t.args).2]
  rfl

/-- `ImportanceK.run_smc`: K particles; particle `i` is weighted exactly like `Importance`'s,
    with the proposal run on `impKQKey k i` and `generate` on `impKTKey v k i`. -/
theorem C26_importanceK_weight (v : Variant) (t : Target A T) (q : SD A T) (K : Nat) (k : Key) (i : Nat)
    (hi : i < K) :
    (runSmc v (importanceK t (some q) K) k)[i]? =
      some ((t.p.generate (impKTKey v k i) (merge t.constraint (q.randomWeighted (impKQKey k i) t).2) t.args).1,
        (t.p.generate (impKTKey v k i) (merge t.constraint (q.randomWeighted (impKQKey k i) t).2) t.args).2
          - (q.randomWeighted (impKQKey k i) t).1) :=
  getElem?_map_range _ hi

theorem C26_importanceK_weight_no_proposal (v : Variant) (t : Target A T) (K : Nat) (k : Key) (i : Nat)
    (hi : i < K) :
    (runSmc v (importanceK t Option.none K) k)[i]? =
      some ((t.p.generate (impKQKey k i) (merge t.constraint []) t.args).1,
        (t.p.generate (impKQKey k i) (merge t.constraint []) t.args).2) := by
  rw [← Int.sub_zero (t.p.generate (impKQKey k i) (merge t.constraint []) t.args).2]
  exact getElem?_map_range _ hi

theorem C26_num_particles (v : Variant) (t : Target A T) (q : Option (SD A T)) (K : Nat) (k : Key) :
    (runSmc v (importanceK t q K) k).length = K ∧ (runSmc v (importance t q) k).length = 1 := by
  cases q <;> exact ⟨(List.length_map _).trans List.length_range, rfl⟩

/-- `ChangeTarget._reweight`: the new log-weight is the old one plus the `generate` weight
    under the new target (new observations ∪ the particle's latents) minus the particle's old
    score. -/
theorem C26_change_target_weight (prevT newT : Target A T) (k : Key) (tr : T) (w : Int) :
    reweight prevT newT k tr w =
      ((newT.p.generate k (merge newT.constraint (prevT.filterToUnconstrained (prevT.p.choices tr))) newT.args).1,
       (newT.p.generate k (merge newT.constraint (prevT.filterToUnconstrained (prevT.p.choices tr))) newT.args).2
         - prevT.p.score tr + w) := rfl

/-- Every particle of `ChangeTarget(prev, t).run_smc(k)` is the reweighting of the particle
    of `prev.run_smc(k)` at the same index, with key `child k i`. -/
theorem C26_change_target_particles (v : Variant) (prev : Alg A T) (t : Target A T) (k : Key) (i : Nat)
    (tr : T) (w : Int) (h : (runSmc v prev k)[i]? = some (tr, w)) :
    (runSmc v (changeTarget prev t) k)[i]? = some (reweight prev.finalTarget t (child k i) tr w) := by
  obtain ⟨hi, _⟩ := List.getElem?_eq_some_iff.mp h
  show ((List.zip (List.range (runSmc v prev k).length) (runSmc v prev k)).map _)[i]? = _
  rw [List.getElem?_map, (List.getElem?_zip_eq_some (z := (i, tr, w))).mpr ⟨List.getElem?_range hi, h⟩]
  rfl

/-- The `generate` law used: constrained addresses carry the constrained value in the
    resulting trace (content of C03/C14 for the combinators). -/
def GenerateRespects (p : GF A T) : Prop :=
  ∀ k c args a x, c.get a = some x → (p.choices (p.generate k c args).1).get a = some x

/-- Every particle returned by `run_smc` — `Importance`, `ImportanceK`, with or without a
    proposal, and any `ChangeTarget` stack on top — satisfies the final target's constraints. -/
theorem C26_constraints_satisfied (v : Variant) (alg : Alg A T) (k : Key)
    (hlaw : GenerateRespects alg.finalTarget.p) :
    ∀ pw ∈ runSmc v alg k, ∀ a x, alg.finalTarget.constraint.get a = some x →
      (alg.finalTarget.p.choices pw.1).get a = some x := by
  intro pw hpw a x hc
  -- each particle's trace is a `generate` result under the final constraint merged with something
  have hgen : ∃ k' c,
      pw.1 = (alg.finalTarget.p.generate k' (merge alg.finalTarget.constraint c) alg.finalTarget.args).1 := by
    cases alg with
    | importance t q =>
      cases q with
      | none => obtain rfl := List.mem_singleton.mp hpw; exact ⟨_, _, rfl⟩
      | some q => obtain rfl := List.mem_singleton.mp hpw; exact ⟨_, _, rfl⟩
    | importanceK t q K =>
      cases q with
      | none => obtain ⟨i, _, rfl⟩ := List.mem_map.mp hpw; exact ⟨_, _, rfl⟩
      | some q => obtain ⟨i, _, rfl⟩ := List.mem_map.mp hpw; exact ⟨_, _, rfl⟩
    | changeTarget prev t => obtain ⟨iw, _, rfl⟩ := List.mem_map.mp hpw; exact ⟨_, _, rfl⟩
  obtain ⟨k', c, e⟩ := hgen
  rw [e]
  exact hlaw k' _ _ a x (get_merge_left _ c a x hc)

/-- `SMCAlgorithm.random_weighted(key, target)` returns a choice map with NO value at any
    address the target constrains, and its density estimate is `score(particle) − lml` of the
    collection of `ChangeTarget(self, target).run_smc(child k 0)`. -/
theorem C26_random_weighted_unconstrained_only (v : Variant) (alg : Alg A T) (k : Key) (target : Target A T)
    (idx : Nat) (lw : LW) (c : Chm) (h : alg.randomWeighted v k target idx = some (lw, c)) :
    (∀ a x, target.constraint.get a = some x → c.get a = none) ∧
    ∃ particle w, (runSmc v (changeTarget alg target) (child k 0))[idx]? = some (particle, w) ∧
      c = target.filterToUnconstrained (target.p.choices particle) ∧
      lw = .lme (target.p.score particle) false ((runSmc v (changeTarget alg target) (child k 0)).map Prod.snd) := by
  simp only [Alg.randomWeighted] at h
  cases hp : (runSmc v (changeTarget alg target) (child k 0))[idx]? with
  | none => rw [hp] at h; cases h
  | some pw =>
    rw [hp] at h
    cases h
    exact ⟨target.get_filterToUnconstrained _, pw.1, pw.2, rfl, rfl, rfl⟩

/-- The log marginal likelihood estimate is `logsumexp(weights) − log(number of weights)`. -/
theorem C26_lml_is_logmeanexp (pc : Particles T) : lmlEstimate pc = .lme 0 true (pc.map Prod.snd) := rfl

/-- Key independence of one SMC step: the key handed to the proposal and the key handed to
    `target.importance` are prefix-free (so nothing the two callees derive can coincide),
    for `Importance` and for every particle of `ImportanceK`. -/
def C26_smc_keys_distinct (v : Variant) : Prop :=
  ∀ (k : Key) (i : Nat), prefixFree (impQKey k) (impTKey k) = true ∧ prefixFree (impKQKey k i) (impKTKey v k i) = true

/-- The model's Boolean test is the prefix relation of lists. -/
theorem isPrefix_iff (a b : Key) : isPrefix a b = true ↔ a <+: b := by
  fun_induction isPrefix a b with
  | case1 b => exact iff_of_true rfl List.nil_prefix
  | case2 x a => exact iff_of_false Bool.false_ne_true fun h => List.cons_ne_nil _ _ (List.prefix_nil.mp h)
  | case3 x a y b ih => rw [Bool.and_eq_true, beq_iff_eq, ih, List.cons_prefix_cons]

theorem isPrefix_append_ne (k : Key) (a b : Nat) (r s : Key) (h : a ≠ b) :
    isPrefix (k ++ a :: r) (k ++ b :: s) = false := by
  rw [← Bool.not_eq_true, isPrefix_iff, List.prefix_append_right_inj, List.cons_prefix_cons]
  exact fun hp => h hp.1

theorem isPrefix_refl (k : Key) : isPrefix k k = true := (isPrefix_iff k k).2 (List.prefix_refl k)

theorem child_child (k : Key) (a i : Nat) : child (child k a) i = k ++ a :: [i] := List.append_assoc k [a] [i]

/-- Two keys that part ways at one component are prefix-free, whatever follows. -/
theorem prefixFree_of_ne (k : Key) {a b : Nat} (h : a ≠ b) (r s : Key) :
    prefixFree (k ++ a :: r) (k ++ b :: s) = true := by
  rw [prefixFree, isPrefix_append_ne k a b r s h, isPrefix_append_ne k b a s r h.symm]
  rfl

theorem C26_importance_keys_distinct (k : Key) : prefixFree (impQKey k) (impTKey k) = true :=
  prefixFree_of_ne k Nat.one_ne_zero [] []

/-- `Importance` (both variants) and the repaired `ImportanceK` route independent keys. -/
theorem C26_keys_distinct_repaired (v : Variant) (hv : v.keysFix = true) : C26_smc_keys_distinct v := by
  intro k i
  refine ⟨prefixFree_of_ne k Nat.one_ne_zero [] [], ?_⟩
  simp only [impKQKey, impKTKey, hv, if_true, child_child]
  exact prefixFree_of_ne k Nat.one_ne_zero [i] [i]

/-- Pinned `ImportanceK.run_smc` hands the SAME key to the proposal and to
    `target.importance` for every particle. -/
theorem C26_keys_pinned_equal (v : Variant) (hv : v.keysFix = false) (k : Key) (i : Nat) :
    impKQKey k i = impKTKey v k i := by simp [impKQKey, impKTKey, hv]

theorem C26_keys_refuted : ¬ C26_smc_keys_distinct Variant.pinned := by
  intro h
  have := (h [] 0).2
  revert this
  decide

/-- Draw-level consequence on a witness whose sampled value is a hash of the key used:
    proposal proposes `x`, the target's latent `z` is not proposed; in every particle of the
    pinned `ImportanceK.run_smc` the "independent" draws coincide, `z = x`. -/
def hashKey (k : Key) : Int := k.foldl (fun (a : Int) (i : Nat) => 31 * a + Int.ofNat i + 1) 7

def kQ : GF (Target Unit Chm) Int :=
  { simulate := fun k _ => hashKey k, assess := fun _ _ => 0, generate := fun k _ _ => (hashKey k, 0)
    project := fun _ _ => 0, update := fun _ t _ => (t, 0, []), choices := fun t => [("x", t)], score := fun _ => 0 }

def kP : GF Unit Chm :=
  { simulate := fun k _ => [("z", hashKey k), ("x", hashKey k)], assess := fun _ _ => 0
    generate := fun k c _ => ([("z", (c.get "z").getD (hashKey k)), ("x", (c.get "x").getD (hashKey k))], 0)
    project := fun _ _ => 0, update := fun _ t _ => (t, 0, []), choices := fun t => t, score := fun _ => 0 }

theorem C26_keys_refuted_draws (K : Nat) (k : Key) :
    ∀ pw ∈ runSmc Variant.pinned (importanceK ⟨kP, (), []⟩ (some (exactSD kQ)) K) k,
      (kP.choices pw.1).get "z" = (kP.choices pw.1).get "x" := by
  intro pw h
  obtain ⟨i, _, rfl⟩ := List.mem_map.mp h
  -- `z` is drawn from the key `generate` is given, `x` was drawn by the proposal: the same key
  exact congrArg (fun key => some (hashKey key)) (C26_keys_pinned_equal Variant.pinned rfl k i).symm

example : (runSmc Variant.repaired (importanceK ⟨kP, (), []⟩ (some (exactSD kQ)) 2) []).map (fun pw => pw.1)
    = [[("z", hashKey [0, 0]), ("x", hashKey [1, 0])], [("z", hashKey [0, 1]), ("x", hashKey [1, 1])]] := by decide +kernel

end GenjaxVerif.Infer

namespace GenjaxVerif.FinProbInfer

/-- A proposal is *exact* when each outcome's reported weight is its (non-zero) probability. -/
def ExactProposal (q : FinDist (Asg × Rat)) : Prop := ∀ x ∈ q, x.1.2 = x.2 ∧ x.2 ≠ 0

/-- The proposal's support *covers* the target: its outcomes partition the target's mass. -/
def Covers (t : Tree) (obs : Asg) (q : FinDist (Asg × Rat)) : Prop :=
  (q.map (fun x => Z t (obs ++ x.1.1))).sum = Z t obs

/-- One particle: `E[exp w] = Σ_x Z(obs ∪ x)` for an exact proposal. -/
theorem C26_single_particle_expectation (t : Tree) (obs : Asg) (q : FinDist (Asg × Rat)) (hq : ExactProposal q) :
    expect (isD t obs q) (fun w => w) = (q.map (fun x => Z t (obs ++ x.1.1))).sum := by
  rw [expect_isD]
  refine congrArg List.sum (List.map_congr_left fun x hx => ?_)
  obtain ⟨h1, h2⟩ := hq x hx
  show x.2 * (Z t (obs ++ x.1.1) / x.1.2) = _
  rw [h1, Rat.div_def, Rat.mul_comm, Rat.mul_assoc, Rat.inv_mul_cancel _ h2, Rat.mul_one]

/-- `exp(lml)` is an unbiased estimate of the normalising constant, for EVERY particle
    count K ≥ 1, every finite tree target, every exact proposal covering the support:
    `E[(1/K) Σᵢ exp wᵢ] = Z`. -/
theorem C26_lml_unbiased (t : Tree) (obs : Asg) (q : FinDist (Asg × Rat)) (K : Nat) (hK : 0 < K)
    (hq : ExactProposal q) (hcov : Covers t obs q) (hmass : mass (isD t obs q) = 1) :
    expect (sumK (isD t obs q) K) (fun s => s / (K : Rat)) = Z t obs := by
  rw [expect_mean_sumK _ hmass K hK, C26_single_particle_expectation t obs q hq, hcov]

/-- Without a proposal (`q = None`): `generate` alone is unbiased, any K. -/
theorem C26_lml_unbiased_no_proposal (t : Tree) (obs : Asg) (K : Nat) (hK : 0 < K)
    (hmass : mass (genD t obs) = 1) :
    expect (sumK (dmap (fun r => r.2) (genD t obs)) K) (fun s => s / (K : Rat)) = Z t obs := by
  rw [expect_mean_sumK _ ((mass_dmap _ _).trans hmass) K hK, expect_dmap, expect_genD]

/-! Non-vacuity: the flip–flip model of tests/inference/test_smc.py (`x ~ flip(1/2)`,
    `y ~ flip(x ? 9/10 : 3/10)`, observe `y = 1`), proposal `x ~ flip(1/4)`. -/
def ffTree : Tree :=
  .choose 0 [(1, 1/2), (0, 1/2)] (fun x => .choose 1 (if x = 1 then [(1, 9/10), (0, 1/10)] else [(1, 3/10), (0, 7/10)]) (fun _ => .ret))
def ffQ : FinDist (Asg × Rat) := [(([(0, 1)], 1/4), 1/4), (([(0, 0)], 3/4), 3/4)]

example : Z ffTree [(1, 1)] = 3/5 := by decide +kernel
example : ExactProposal ffQ := by intro x hx; simp [ffQ] at hx; rcases hx with rfl | rfl <;> decide +kernel
example : Covers ffTree [(1, 1)] ffQ := by unfold Covers; decide +kernel
example : mass (isD ffTree [(1, 1)] ffQ) = 1 := by decide +kernel
example : expect (sumK (isD ffTree [(1, 1)] ffQ) 2) (fun s => s / 2) = 3/5 := by decide +kernel

end GenjaxVerif.FinProbInfer
