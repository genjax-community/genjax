import GenjaxVerif.Lemmas.GFIRun
/-!
# C35 — masked constraint values act as conditional constraints

A constraint is consumed only at primitive choices (`leaf`), after being narrowed along the
address by `get_submap` (static components, and the index components of the vector
combinators, which hand element `k` the sub-map `c.sub (.i k)` — so a vectorised mask is
consumed elementwise).  Hence the two leaf-level equivalences below lift to every program.
-/
namespace GenjaxVerif.GFI
open GenjaxVerif

/-- In `generate`: a value under a mask with flag True behaves exactly like the bare value, and
    with flag False exactly like an absent constraint. -/
theorem C35_generate_masked (ds : DistSem) (d : Nat) (i j : In) (v : Int)
    (hk : j.key = i.key) (ha : j.args = i.args) :
    (i.c.leaf = some (.masked true v) → j.c.leaf = some (.plain v) → leaf ds .gen d i = leaf ds .gen d j) ∧
    (i.c.leaf = some (.masked false v) → j.c.leaf = none → leaf ds .gen d i = leaf ds .gen d j) := by
  constructor <;> intro h1 h2 <;> rw [leaf_gen, leaf_gen] <;> simp [validValue, h1, h2, hk, ha]

/-- In `update`: the new trace and the weight are those of the bare constraint (flag True) or of
    no constraint (flag False); only the recorded backward value carries the flag along. -/
theorem C35_update_masked (ds : DistSem) (d : Nat) (i j : In) (v : Int) (ri rj : Res)
    (ho : j.old = i.old) (ha : j.args = i.args)
    (hi : leaf ds .upd d i = .ok ri) (hj : leaf ds .upd d j = .ok rj) :
    (i.c.leaf = some (.masked true v) → j.c.leaf = some (.plain v) → ri.tr = rj.tr ∧ ri.w = rj.w) ∧
    (i.c.leaf = some (.masked false v) → j.c.leaf = none → ri.tr = rj.tr ∧ ri.w = rj.w) := by
  obtain ⟨_, _, _, _, hoi⟩ := leaf_edit_old (.inl rfl) hi
  cases (leaf_upd hoi).symm.trans hi
  cases (leaf_upd (ho.trans hoi)).symm.trans hj
  constructor <;> intro h1 h2 <;> simp [validValue, h1, h2, ha]

/-- Element `k` of a vmapped / scanned call sees exactly the sub-map at index `k`. -/
theorem C35_vector_elementwise (axes : List Ax) (as : List Val) (i i' : In) (k : Nat)
    (h : vmapElem axes as i k = .ok i') : i'.c = CMap.sub i.c (.i k) := by
  obtain ⟨_, _, _, _, rfl⟩ := vmapElem_ok.1 h
  rfl

end GenjaxVerif.GFI
