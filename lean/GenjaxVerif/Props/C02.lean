import GenjaxVerif.Lemmas.GFIWeights
import GenjaxVerif.Props.C01
import GenjaxVerif.Props.GFITest
/-!
# C02 — scores are the exact joint log-density defined by the program

In the model a trace's score is *defined* structurally as the sum of the log-densities
stored at its primitive choices, with a masked-off sub-trace contributing 0
(`Trace.score`); every primitive choice stores `ds.lp d value args` (`leaf_form`).
The theorems below say that what the operations *return* as score / weight is that sum.
-/
namespace GenjaxVerif.GFI
open GenjaxVerif

/-- `assess` returns as its score exactly the score of the execution it visits: the sum,
    over the choices it reads from the sample, of their log-densities given the arguments
    computed from earlier values — for every program and every sample. -/
theorem C02_assess_is_joint_logdensity (ds : DistSem) (p : Prog) (i : In) (r : Res)
    (h : run ds .assess p i = .ok r) : r.w = r.tr.score :=
  assess_w ds p i r h

/-- Every primitive choice of every returned trace (any operation) carries the
    log-density of its own value at its own arguments. -/
theorem C02_leaf_logdensity (ds : DistSem) (m : Mode) (d : Nat) (i : In) (r : Res)
    (h : run ds m (.dist d) i = .ok r) : ∃ v, r.tr = .dist d i.args v (ds.lp d v i.args) := by
  exact leaf_form h

/-- The score reported by a trace equals what `assess` computes on the trace's own choices
    (so scores of simulate / generate / update / regenerate traces are the same joint
    log-density). -/
theorem C02_trace_score_eq_assess_partial (ds : DistSem) (m : Mode) (p : Prog) (i : In) (r : Res)
    (h : run ds m p i = .ok r) (hg : Good r.tr) :
    (assess ds p r.tr.choices i.args).map (·.1) = .ok r.tr.score := by
  rw [C01_trace_assess_partial ds m p i r h hg]; rfl

/-- The score of ANY trace is the sum, over every random choice it holds that is not masked off,
    of that choice's stored log-density — which (C02_leaf_logdensity) is the density of its value
    at the arguments computed from the values it depends on. -/
theorem C02_score_is_sum_over_live_choices (t : Trace) : t.score = liveSum (sites t) :=
  score_eq_liveSum t

/-- A masked-off call contributes zero to the score, whatever it contains. -/
theorem C02_masked_off_contributes_zero (args : Val) (inner : Trace) :
    (Trace.mask false inner).score = 0 := by
  simp [Trace.score]

/-- simulate has weight 0 (it constrains nothing). -/
theorem C02_simulate_weight_zero (ds : DistSem) (p : Prog) (i : In) (r : Res)
    (h : run ds .sim p i = .ok r) : r.w = 0 :=
  sim_w ds p i r h

/-- test: a concrete non-trivial instance -/
example : (run Test.ds .assess Test.prog1
    { Test.in1 with c := [([.s "x"], .plain 4), ([.s "y", .i 0], .plain 0), ([.s "y", .i 1], .masked true 2)] }
    ).toOption.map (·.w) = some (4 + (10 + 0 + 1) + (10 + 2 + 1)) := by decide +kernel

end GenjaxVerif.GFI
