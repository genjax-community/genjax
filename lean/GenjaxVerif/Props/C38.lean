import GenjaxVerif.Lemmas.GFIWeights
import GenjaxVerif.Lemmas.GFIReplay
import GenjaxVerif.Lemmas.GFIUpdate
import GenjaxVerif.Lemmas.Sel
import GenjaxVerif.Props.GFITest
/-!
# C38 — derived GFI methods and request combinators agree with the primitives
-/
namespace GenjaxVerif.GFI
open GenjaxVerif

/-- `propose` returns simulate's choices, score and return value for the same key. -/
theorem C38_propose_eq_simulate (ds : DistSem) (p : Prog) (k : KeyPath) (a : Val) (t : Trace)
    (h : simulate ds p k a = .ok t) : propose ds p k a = .ok (t.choices, t.score, t.ret) := by
  simp [propose, h, Except.map]

theorem C38_importance_eq_generate (ds : DistSem) (p : Prog) (k : KeyPath) (c : CMap) (a : Val) :
    importance ds p k c a = generate ds p k c a := rfl

/-- `EmptyRequest`: the identity with weight 0 when no argument changed … -/
theorem C38_empty_request_nochange (ds : DistSem) (p : Prog) (k : KeyPath) (t : Trace) (a : Val) :
    emptyRequest ds p k t a true = .ok ⟨t, 0, [], true⟩ := rfl

/-- … and an `Update` with the empty constraint otherwise. -/
theorem C38_empty_request_changed (ds : DistSem) (p : Prog) (k : KeyPath) (t : Trace) (a : Val) (ch : Bool) :
    emptyRequest ds p k t a false ch = update ds p k t [] a ch := rfl

/-- `StaticRequest` applies each addressed sub-request: when its entry at every address is the `Update`
    of that address's part of one constraint, the request is `Update` of the whole constraint … -/
theorem C38_static_request_of_updates (ds : DistSem) (b : Body) (k : KeyPath) (t : Trace) (c : CMap) (a : Val)
    (ch : Bool) :
    staticRequest ds (.static b) k t (fun addr => SubReq.update (c.subStatic addr)) a ch
      = update ds (.static b) k t c a ch := by
  have key := fun olds env => reqBody_eq_runBody_of ds .upd (.inl rfl)
    { c := [], sel := .none, old := some t, key := k, args := a, changed := ch }
    { c := c, sel := .none, old := some t, key := k, args := a, changed := ch } rfl rfl olds b env {}
  simp only [Sel.subs_none] at key
  simp only [staticRequest, update, run, staticRun, SubReq.update, key]

/-- … and when every entry is the `Regenerate` of that address's part of one selection, it is
    `Regenerate` of the whole selection. -/
theorem C38_static_request_of_regenerates (ds : DistSem) (b : Body) (k : KeyPath) (t : Trace) (sel : Sel) (a : Val) :
    staticRequest ds (.static b) k t (fun addr => SubReq.regenerate (sel.subs addr)) a
      = regenerate ds (.static b) k t sel a := by
  have key := fun olds env => reqBody_eq_runBody_of ds .regen (.inr rfl)
    { c := [], sel := .none, old := some t, key := k, args := a }
    { c := [], sel := sel, old := some t, key := k, args := a } rfl rfl olds b env {}
  simp only [CMap.subStatic_nil] at key
  simp only [staticRequest, regenerate, run, staticRun, staticOlds_regen, SubReq.regenerate, key]

/-- Addresses the request's dict does not mention get `EmptyRequest`; a mentioned address gets its entry. -/
theorem C38_static_request_table (reqs : List (List String × SubReq)) (a : List String) (q : SubReq) :
    reqTable [] a = SubReq.empty ∧ reqTable ((a, q) :: reqs) a = q ∧
    (∀ e ∈ reqs, e.1 ≠ a) → reqTable reqs a = SubReq.empty := by
  intro h
  unfold reqTable
  have : reqs.find? (fun e => e.1 = a) = none := by
    simp only [List.find?_eq_none, decide_eq_true_eq]
    exact h.2.2
  rw [this]

/-- A `StaticRequest` with an empty dict is `EmptyRequest` on the whole function (here: the empty
    `Update`, see `C38_empty_request_changed`). -/
theorem C38_static_request_empty (ds : DistSem) (b : Body) (k : KeyPath) (t : Trace) (a : Val) (ch : Bool) :
    staticRequest ds (.static b) k t (reqTable []) a ch = update ds (.static b) k t [] a ch := by
  rw [← C38_static_request_of_updates]
  congr 1; funext addr
  simp [reqTable, SubReq.empty, SubReq.update]

/-- The weight of a `StaticRequest` whose entries are Updates / Regenerates is new score − old score
    (exact densities; no switch whose index is tagged changed inside, as for `Update`). -/
theorem C38_static_request_weight (ds : DistSem) (b : Body) (k : KeyPath) (t : Trace) (req : List String → SubReq)
    (a : Val) (ch : Bool) (r : Res) (hmode : ∀ x, (req x).mode = .upd ∨ (req x).mode = .regen)
    (hs : Shape (.static b) t) (hsafe : SafeBody ch b)
    (h : staticRequest ds (.static b) k t req a ch = .ok r) : r.w = r.tr.score - t.score := by
  simp only [staticRequest, staticRun, bind_eq_ok, pure_eq_ok] at h
  obtain ⟨env, _, olds, h2, ⟨st, v⟩, h3, rfl⟩ := h
  obtain ⟨targs, tret, rfl⟩ := staticOlds_edit (.inl rfl) h2
  have := reqBody_w ds req hmode b _ olds env {} st v [] olds h3 rfl hs rfl (by simp [Trace.scoreAL]) hsafe
  simpa [Trace.score] using this

theorem C38_static_request_static_only (ds : DistSem) (p : Prog) (k : KeyPath) (t : Trace) (req : List String → SubReq)
    (a : Val) (ch : Bool) (r : Res) (h : staticRequest ds p k t req a ch = .ok r) : ∃ b, p = .static b := by
  cases p <;> simp [staticRequest] at h
  exact ⟨_, rfl⟩

/-- The empty `Update` of a trace — one produced by ANY operation on `p` — with that trace's own
    arguments returns the same trace, weight 0 and an empty backward request (provided no switch is
    re-simulated: `Safe`).  Hence re-executing with every argument tagged UnknownChange and taking the
    NoChange shortcut give the same result on unchanged arguments. -/
theorem C38_empty_update_is_identity (ds : DistSem) (m : Mode) (p : Prog) (i : In) (r : Res)
    (h : run ds m p i = .ok r) (k : KeyPath) (ch : Bool) (hs : Safe ch p) :
    update ds p k r.tr [] i.args ch = .ok ⟨r.tr, 0, [], true⟩ :=
  upd_id ds m p i r h { c := [], sel := .none, old := some r.tr, key := k, args := i.args, changed := ch } rfl rfl rfl hs

/-- Non-vacuity (a test): the hypotheses are met by a concrete program and simulated trace. -/
example : run Test.ds .sim Test.prog1 Test.in1 = .ok ⟨Test.trace1, 0, [], true⟩ ∧ Safe false Test.prog1 :=
  ⟨rfl, by simp [Test.prog1, Safe, SafeBody]⟩

/-- `EmptyRequest`'s two arms agree where both apply: on unchanged arguments, the identity arm
    (arguments tagged NoChange) and the `Update(empty)` arm (tagged UnknownChange) return the same. -/
theorem C38_empty_request_arms_agree (ds : DistSem) (m : Mode) (p : Prog) (i : In) (r : Res)
    (h : run ds m p i = .ok r) (k : KeyPath) (ch : Bool) (hs : Safe ch p) :
    emptyRequest ds p k r.tr i.args false ch = emptyRequest ds p k r.tr i.args true ch := by
  simp only [emptyRequest, if_true, Bool.false_eq_true, if_false]
  exact C38_empty_update_is_identity ds m p i r h k ch hs

/-- `DiffAnnotate` with identity maps is its inner request. -/
theorem C38_diff_annotate_identity (edit : Val → Except Err Res) (a : Val) : diffAnnotate id id edit a = edit a := by
  unfold diffAnnotate
  show Except.map id (edit a) = edit a
  cases edit a <;> rfl

/-- `simulate` constrains nothing: its weight is 0 (so `propose`'s score is the whole score). -/
theorem C38_simulate_weight (ds : DistSem) (p : Prog) (i : In) (r : Res) (h : run ds .sim p i = .ok r) : r.w = 0 :=
  sim_w ds p i r h

end GenjaxVerif.GFI
