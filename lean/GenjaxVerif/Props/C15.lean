import GenjaxVerif.Lemmas.GFIRun
import GenjaxVerif.Model.Derived
import GenjaxVerif.Props.GFITest
/-!
# C15 — dimap, map and contramap only transform arguments and return values
-/
namespace GenjaxVerif.GFI
open GenjaxVerif

/-- For every mode (simulate, assess, generate, update, regenerate): `dimap(pre, post)(p)` runs `p`
    on `pre(args)` with the same key / constraint / selection (and, for edits, the inner previous
    trace); its choices, score, weight and backward constraint are the inner ones and its return
    value is `post(args, pre(args), inner return)` — recomputed from the NEW arguments on every
    edit. -/
theorem C15_dimap_transparent (ds : DistSem) (m : Mode) (pre : Pre) (p : Prog) (post : Expr) (i : In) (r : Res)
    (h : run ds m (.dimap pre p post) i = .ok r) :
    ∃ as ia o r' rv, argList i.args = .ok as ∧ pre.apply as = .ok ia ∧ dimapOld m i.old = .ok o ∧
      run ds m p { i with old := o, args := .tup ia } = .ok r' ∧
      Expr.eval [i.args, .tup ia, r'.tr.ret] post = .ok rv ∧
      r.tr = .dimap i.args rv r'.tr ∧ r.tr.ret = rv ∧ r.w = r'.w ∧ r.bwd = r'.bwd ∧
      r.tr.score = r'.tr.score ∧ r.tr.choices = r'.tr.choices := by
  obtain ⟨as, has, ia, hia, o, ho, r', hr, rv, hrv, rfl⟩ := run_dimap.1 h
  exact ⟨as, ia, o, r', rv, has, hia, ho, hr, hrv, rfl, rfl, rfl, rfl, rfl, rfl⟩

/-- `map(f)` leaves the arguments alone; `contramap(f)` leaves the return value alone. -/
theorem C15_map_contramap_def (p : Prog) (f : Expr) (es : List Expr) :
    Derived.map p f = .dimap .id p f ∧ Derived.contramap es p = .dimap (.exprs es) p (.var 2) := ⟨rfl, rfl⟩

theorem C15_identity_maps (as : List Val) (a xf r : Val) :
    Pre.apply .id as = .ok as ∧ Expr.eval [a, xf, r] Derived.retId = .ok r :=
  ⟨rfl, rfl⟩

/-- The edited inner trace is the dimap trace's inner trace. -/
theorem C15_edit_uses_inner_trace (a rv : Val) (inner : Trace) :
    dimapOld .upd (some (.dimap a rv inner)) = .ok (some inner) ∧
    dimapOld .regen (some (.dimap a rv inner)) = .ok (some inner) := ⟨rfl, rfl⟩

end GenjaxVerif.GFI
