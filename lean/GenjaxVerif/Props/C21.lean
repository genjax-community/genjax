import GenjaxVerif.Lemmas.Pytree
/-!
# C21 — Diff and Pytree utilities are structure-preserving round trips  (PARTIAL)

Statements only (the model functions are in `Model/Pytree.lean`).  Every theorem is for *all*
trees of any depth and width, by structural induction — no size bound.

Partial, for two reasons stated once here:
* JAX's pytree registry, `flatten_up_to`, tracing by `jit` / `vmap` and penzai's
  `Struct.tree_flatten` are *modelled* (`leaves`, `shape`, `fill`, `treeDiff`, `mkData`), not
  verified; the correspondence run ties the model to them on generated trees.
* The statements about `Diff` hold for trees that use `Diff` as documented (`flatDiff`: a `Diff`
  pairs a plain value tree with a change tangent, no `Diff` inside a `Diff`).  For nested `Diff`s
  the full statement is false of the model *and* of the code (`C21_refuted`).
-/
namespace GenjaxVerif.PT

variable {α β γ : Type}

/-- `tree_primal(tree_diff(t, tangents)) == t` for every `Diff`-free tree `t` and every tangent
    tree `tree_diff` accepts. -/
theorem C21_primal_diff (t s r : PT α) (ht : noDiff t = true) (hr : treeDiff t s = .ok r) :
    treePrimal r = t := (treeDiff_inv.1 t s r ht hr).1

/-- `tree_tangent(tree_diff(t, tangents)) == tangents`. -/
theorem C21_tangent_diff (t s r : PT α) (ht : noDiff t = true) (hr : treeDiff t s = .ok r) :
    treeTangent r = s := (treeDiff_inv.1 t s r ht hr).2

/-- Non-vacuity of the two theorems above for every tree: `tree_diff` accepts the constant
    tangent tree over `t` and puts one `Diff` around each leaf. -/
theorem C21_tree_diff_const (c : Change) (t : PT α) :
    treeDiff t (bind (fun _ => tan c) t) = .ok (wrap c t) := (treeDiff_const c).1 t

example : noDiff (mkTuple [leaf (1 : Int), mkNone, mkDict [("b", leaf 2), ("a", mkConst "7")]]) = true := by decide +kernel
example : treeDiff (mkTuple [leaf (1 : Int), mkList [leaf 2]]) (mkTuple [tan .no, mkList [tan .unknown]])
    = .ok (mkTuple [diff (leaf 1) (tan .no), mkList [diff (leaf 2) (tan .unknown)]]) := by rfl

/-- Error branch: a non-`ChangeTangent` at a leaf position is the `TypeError` of `Diff.__init__`. -/
theorem C21_tree_diff_type_error (a : α) (s : PT α) (h : isChangeTangent s = false) :
    treeDiff (leaf a) s = .error .typeError := if_neg (Bool.eq_false_iff.1 h)

/-- Error branch: containers of different class, static data or arity are the `ValueError` of
    `flatten_up_to` (`None` against a tangent, a tuple against a leaf, …). -/
theorem C21_tree_diff_structure_error (tag tag' : String) (st st' : List String) (ks ks' : List (PT α))
    (h : tag ≠ tag' ∨ st ≠ st' ∨ ks.length ≠ ks'.length) :
    treeDiff (node tag st ks) (node tag' st' ks') = .error .structure := by
  -- forests of different lengths: one runs out first, and `both` lets that structure error win
  have hlen : ∀ (xs ys : List (PT α)), xs.length ≠ ys.length → treeDiffL xs ys = .error .structure := by
    intro xs
    induction xs with
    | nil =>
      intro ys hne
      cases ys with
      | nil => exact absurd rfl hne
      | cons _ _ => rfl
    | cons x xs ih =>
      intro ys hne
      cases ys with
      | nil => rfl
      | cons y ys =>
        rw [treeDiffL, ih ys fun e => hne (congrArg (· + 1) e)]
        cases treeDiff x y <;> rfl
  rw [treeDiff]
  split
  · next hh => rw [hlen ks ks' ((h.resolve_left (not_not_intro hh.1)).resolve_left (not_not_intro hh.2))]
  · rfl

example : treeDiff (mkTuple [leaf (1 : Int), mkNone]) (mkTuple [tan .no, tan .unknown]) = .error .structure := by rfl
example : treeDiff (mkTuple [leaf (1 : Int)]) (mkTuple [leaf 7]) = .error .typeError := by rfl

/-- Without `Diff`s `tree_primal` is the identity and every tangent is `NoChange`. -/
theorem C21_primal_plain (t : PT α) (h : noDiff t = true) :
    treePrimal t = t ∧ treeTangent t = bind (fun _ => tan .no) t :=
  ⟨treePrimal_noDiff t h, treeTangent_noDiff t h⟩

/-- `tree_primal` keeps every leaf value, in order, and is idempotent. -/
theorem C21_primal_leaves (t : PT α) (h : flatDiff t = true) :
    leaves (treePrimal t) = leaves t ∧ treePrimal (treePrimal t) = treePrimal t :=
  ⟨leaves_treePrimal t (flatDiff_frontier t h).2,
   treePrimal_noDiff _ (plain_noDiff _ (plain_treePrimal t h))⟩

example : flatDiff (mkTuple [leaf (1 : Int), diff (mkTuple [leaf 2, leaf 3]) (tan .unknown), mkNone]) = true := by decide +kernel

/-- For *every* tree (nested `Diff`s included) `no_change` / `unknown_change` never raise and
    return the primal tree with one `Diff` around each leaf. -/
theorem C21_no_change_eq (t : PT α) : noChange t = .ok (wrap .no (treePrimal t)) := retag_eq .no t
theorem C21_unknown_change_eq (t : PT α) : unknownChange t = .ok (wrap .unknown (treePrimal t)) :=
  retag_eq .unknown t

theorem C21_no_change_primal (t r : PT α) (h : flatDiff t = true) (hr : noChange t = .ok r) :
    treePrimal r = treePrimal t ∧ leaves r = leaves t ∧ flatDiff r = true := retag_primal .no t r h hr

theorem C21_unknown_change_primal (t r : PT α) (h : flatDiff t = true) (hr : unknownChange t = .ok r) :
    treePrimal r = treePrimal t ∧ leaves r = leaves t ∧ flatDiff r = true := retag_primal .unknown t r h hr

/-- The tangents after `no_change`: `NoChange` at every leaf position; all leaves are `Diff`s;
    `static_check_no_change` holds. -/
theorem C21_no_change_tangent (t r : PT α) (h : flatDiff t = true) (hr : noChange t = .ok r) :
    treeTangent r = bind (fun _ => tan .no) (treePrimal t) ∧ staticCheckTreeDiff r = true ∧
    staticCheckNoChange r = true := retag_tangent .no t r h hr

/-- The tangents after `unknown_change`: `UnknownChange` at every leaf position, so
    `static_check_no_change` is false unless the tree has no leaf at all. -/
theorem C21_unknown_change_tangent (t r : PT α) (h : flatDiff t = true) (hr : unknownChange t = .ok r) :
    treeTangent r = bind (fun _ => tan .unknown) (treePrimal t) ∧ staticCheckTreeDiff r = true ∧
    staticCheckNoChange r = (leaves t).isEmpty := retag_tangent .unknown t r h hr

/-- Idempotence / absorption (no nested `Diff` is ever produced): re-tagging a re-tagged tree
    only depends on the last tag. -/
theorem C21_retag_idem (t r : PT α) (c c' : Change) (h : flatDiff t = true) (hr : retag c t = .ok r) :
    retag c' r = retag c' t ∧ retag c r = .ok r := by
  obtain ⟨rfl, _, hnd, _⟩ := retag_flat c t r h hr
  simp only [retag_eq, treePrimal_wrap c _ hnd, and_self]

theorem C21_no_change_idem (t r : PT α) (h : flatDiff t = true) (hr : noChange t = .ok r) :
    noChange r = .ok r ∧ unknownChange r = unknownChange t :=
  ⟨(C21_retag_idem t r .no .no h hr).2, (C21_retag_idem t r .no .unknown h hr).1⟩

/-- The reverse round trip: after `no_change` / `unknown_change` the result is exactly
    `tree_diff(tree_primal(r), tree_tangent(r))` — the primal / tangent pair loses nothing. -/
theorem C21_diff_of_primal_tangent (c : Change) (t r : PT α) (h : flatDiff t = true)
    (hr : retag c t = .ok r) : treeDiff (treePrimal r) (treeTangent r) = .ok r := by
  obtain ⟨rfl, _, hnd, _⟩ := retag_flat c t r h hr
  rw [treePrimal_wrap c _ hnd, treeTangent_wrap c _ hnd]
  exact (treeDiff_const c).1 _

example : treeDiff (treePrimal (mkTuple [diff (leaf (1 : Int)) (tan .no), mkNone]))
    (treeTangent (mkTuple [diff (leaf (1 : Int)) (tan .no), mkNone]))
    = .ok (mkTuple [diff (leaf 1) (tan .no), mkNone]) := by rfl

example : noChange (mkTuple [leaf (1 : Int), diff (mkTuple [leaf 2, leaf 3]) (tan .unknown), mkNone])
    = .ok (mkTuple [diff (leaf 1) (tan .no), mkTuple [diff (leaf 2) (tan .no), diff (leaf 3) (tan .no)], mkNone]) := by rfl

/-- `static_check_no_change(v)` is true exactly when every tangent at the frontier of `v` is
    `NoChange`, for any tree whose outermost `Diff`s are well typed (nested `Diff`s and free change
    tangents allowed). -/
theorem C21_static_check_no_change_frontier (v : PT α) (h : typedTangents v = true) :
    staticCheckNoChange v = true ↔ ∀ x ∈ frontierTangents v, x = tan .no := by
  rw [staticCheckNoChange_eq v h]
  simp [List.all_eq_true, isNoChange_iff]

/-- In a tree that uses `Diff` as documented the frontier holds every tangent, so there
    `static_check_no_change(v)` is true exactly when every tangent carried by `v` is `NoChange`. -/
theorem C21_static_check_no_change_iff (v : PT α) (h : flatDiff v = true) :
    staticCheckNoChange v = true ↔ ∀ x ∈ allTangents v, x = tan .no := by
  have hf := flatDiff_frontier v h
  rw [← hf.1]
  exact C21_static_check_no_change_frontier v hf.2

example : flatDiff (mkTuple [diff (leaf (1 : Int)) (tan .no), mkDict [("k", diff (leaf 2) (tan .unknown))]]) = true := by decide +kernel
example : staticCheckNoChange (mkTuple [diff (leaf (1 : Int)) (tan .no), mkDict [("k", diff (leaf 2) (tan .unknown))]]) = false := by decide +kernel

/-- The statement without the "no nested `Diff`" restriction. -/
def C21_full : Prop :=
  ∀ v : PT Int, typedTangents v = true → (staticCheckNoChange v = true ↔ ∀ x ∈ allTangents v, x = tan .no)

/-- It is false: `Diff(Diff(1, UnknownChange), NoChange)` passes `static_check_no_change`
    (the helpers stop at the outermost `Diff`), as in the code.  The class docstring excludes
    nested `Diff`s, so this is a documented precondition, not a defect. -/
theorem C21_refuted : ¬ C21_full := by
  intro h
  have := (h (diff (diff (leaf 1) (tan .unknown)) (tan .no)) (by decide)).1 (by decide)
  have := this (tan .unknown) (by simp [allTangents])
  cases this

/-- `tree_unflatten(*reversed(tree_flatten(t))) == t`. -/
theorem C21_unflatten_flatten (t : PT α) : unflatten (flatten t).2 (flatten t).1 = .ok t :=
  (unflatten_ok_iff _ _ t).2 ⟨rfl, rfl⟩

/-- Conversely whatever `tree_unflatten` builds flattens back to its inputs. -/
theorem C21_flatten_unflatten (td : PT Unit) (xs : List α) (t : PT α) (h : unflatten td xs = .ok t) :
    flatten t = (xs, td) := by
  obtain ⟨h1, h2⟩ := (unflatten_ok_iff td xs t).1 h
  rw [flatten, h1, h2]

/-- Error branch: a wrong number of leaves is rejected. -/
theorem C21_unflatten_leaf_count (td : PT Unit) (xs : List α) (h : xs.length ≠ (leaves td).length) :
    unflatten td xs = .error .leafCount := by
  cases hu : unflatten td xs with
  | ok t =>
    -- a success would have `td = shape t`, which has one hole per leaf of `t`, and `xs = leaves t`
    obtain ⟨rfl, rfl⟩ := (unflatten_ok_iff td xs t).1 hu
    exact absurd (by rw [shape, leaves_mapLeaves, List.length_map]) h
  | error e =>
    unfold unflatten at hu
    split at hu <;> cases hu
    rfl

example : unflatten (shape (mkTuple [leaf (1 : Int), leaf 2])) [5] = .error .leafCount := by rfl

/-- The identity function across a `jit` / `vmap` boundary returns the same tree (tags, static
    data and leaves), and exactly the leaves are traced. -/
theorem C21_boundary_id (t : PT α) : boundary t = .ok t ∧ tracedInputs t = (flatten t).1.length :=
  ⟨C21_unflatten_flatten t, rfl⟩

/-- Static fields never occur among the leaves of a `Pytree.dataclass` instance: its leaves are
    exactly the leaves of its dynamic fields, and every static field value sits in the treedef. -/
theorem C21_flatten_leaves_no_static (cls : String) (fs : List (Field α)) :
    leaves (mkData cls fs) = leavesL (dynKids fs) ∧
    ∀ n v, Field.static n v ∈ fs →
      ∃ st ks, shape (mkData cls fs) = node cls st ks ∧ (n ++ "=" ++ v) ∈ st := by
  exact ⟨rfl, fun n v h => ⟨_, _, rfl,
    List.mem_append_right _ (List.mem_cons_of_mem _ (staticPairs_mem fs n v h))⟩⟩

/-- Two instances that differ only in static field values have the same leaves. -/
theorem C21_static_not_traced (cls : String) (fs fs' : List (Field α)) (h : dynKids fs = dynKids fs') :
    leaves (mkData cls fs) = leaves (mkData cls fs') := by
  rw [leaves_mkData, leaves_mkData, h]

/-- `Const` has no leaves (its value lives in the treedef); a `Closure`'s leaves are those of its
    dynamic arguments. -/
theorem C21_const_closure_leaves (v fn : String) (args : List (PT α)) :
    leaves (mkConst v : PT α) = [] ∧ leaves (mkClosure fn args) = leavesL args :=
  -- the only child of a `Closure` is the tuple of its arguments
  ⟨rfl, List.append_nil (leavesL args)⟩

example : flatten (mkData "A" [.dyn "x" (leaf (1 : Int)), .static "s" "hello", .dyn "y" (mkTuple [leaf 2, leaf 3])])
    = ([1, 2, 3], node "A" ["x", "y", "|", "s=hello"] [leaf (), mkTuple [leaf (), leaf ()]]) := by rfl

/-- Test (not a theorem): a dict flattens in sorted-key order whatever its insertion order. -/
example : mkDict [("b", leaf (1 : Int)), ("ab", leaf 3), ("a", leaf 2)] = node "dict" ["a", "ab", "b"] [leaf 2, leaf 3, leaf 1] := by rfl

/-- `tree_map(f, t)` keeps the structure (tags, static data, arities) and maps the leaves in order. -/
theorem C21_tree_map_structure (f : α → β) (t : PT α) :
    shape (mapLeaves f t) = shape t ∧ leaves (mapLeaves f t) = (leaves t).map f :=
  ⟨shape_mapLeaves f t, leaves_mapLeaves f t⟩

/-- Functor laws. -/
theorem C21_tree_map_id_comp (f : α → β) (g : β → γ) (t : PT α) :
    mapLeaves (fun a => a) t = t ∧ mapLeaves g (mapLeaves f t) = mapLeaves (fun a => g (f a)) t :=
  ⟨mapLeaves_id t, mapLeaves_mapLeaves f g t⟩

/-- `tree_map` is flatten, map, unflatten. -/
theorem C21_tree_map_via_flatten (f : α → β) (t : PT α) :
    unflatten (flatten t).2 ((flatten t).1.map f) = .ok (mapLeaves f t) :=
  (unflatten_ok_iff _ _ _).2 ⟨shape_mapLeaves f t, leaves_mapLeaves f t⟩

/-- Example `i` of a batched tree (`nth`, the per-example view under `vmap`) has the structure
    and static data of the batched tree; its leaves are the `i`-th entries. -/
theorem C21_nth_structure (i : Nat) (t : PT (List α)) :
    shape (nth i t) = shape t ∧ leaves (nth i t) = (leaves t).map (fun v => v[i]?) :=
  C21_tree_map_structure _ t

end GenjaxVerif.PT
