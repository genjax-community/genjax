import GenjaxVerif.Lemmas.GFIWeights
import GenjaxVerif.Lemmas.GFIKept
import GenjaxVerif.Props.GFITest
/-!
# C05 — update installs the constraint and weighs by the score change
-/
namespace GenjaxVerif.GFI
open GenjaxVerif

/-- Weight law: for every program, previous trace of that program's shape, constraint and new
    arguments, an update that draws no fresh trace (no switch is reached with its index tagged
    changed — `Safe`, decidable) has weight `new score − old score`.  Because the result has the
    program's shape again (`C05_update_shape`), the law holds along every sequence of updates. -/
theorem C05_update_weight (ds : DistSem) (p : Prog) (i : In) (r : Res) (told : Trace)
    (h : run ds .upd p i = .ok r) (ho : i.old = some told) (hs : Shape p told) (hsafe : Safe i.changed p) :
    r.w = r.tr.score - told.score :=
  upd_w ds p i r told h ho hs hsafe

theorem C05_new_trace_holds_new_args (ds : DistSem) (p : Prog) (i : In) (r : Res)
    (h : run ds .upd p i = .ok r) : r.tr.args = i.args :=
  run_args ds .upd p i r h

/-- The new trace holds the constraint's value at every (validly) constrained address … -/
theorem C05_update_installs_constraint (ds : DistSem) (p : Prog) (i : In) (r : Res)
    (h : run ds .upd p i = .ok r) : Agrees i.c r.tr :=
  run_agrees ds .upd (Or.inr rfl) p i r h

/-- … and the previous value at every other address (no fresh trace drawn). -/
theorem C05_update_keeps_unconstrained (ds : DistSem) (p : Prog) (i : In) (r : Res) (told : Trace)
    (h : run ds .upd p i = .ok r) (ho : i.old = some told) (hs : Shape p told) (hsafe : Safe i.changed p) :
    Kept i.c told r.tr :=
  upd_kept ds p i r told h ho hs hsafe

/-- Every operation returns a trace of the program's shape, so histories compose. -/
theorem C05_update_shape (ds : DistSem) (m : Mode) (p : Prog) (i : In) (r : Res)
    (h : run ds m p i = .ok r) : Shape p r.tr :=
  run_shape ds m p i r h

/-- At a primitive choice: a (validly) constrained address takes the constraint's value, an
    unconstrained one keeps the previous value, and the backward constraint holds exactly the
    previous value when (and only when) the address was overwritten. -/
theorem C05_leaf_update (ds : DistSem) (d : Nat) (i : In) (r : Res) (d' a ov olp)
    (ho : i.old = some (.dist d' a ov olp)) (h : leaf ds .upd d i = .ok r) :
    (i.c.leaf = none → r.tr = .dist d i.args ov (ds.lp d ov i.args) ∧ r.bwd = []) ∧
    (∀ v, i.c.leaf = some (.plain v) → r.tr = .dist d i.args v (ds.lp d v i.args) ∧ r.bwd = [([], .plain ov)]) ∧
    (∀ v, i.c.leaf = some (.masked true v) →
      r.tr = .dist d i.args v (ds.lp d v i.args) ∧ r.bwd = [([], .masked true ov)]) ∧
    (∀ v, i.c.leaf = some (.masked false v) →
      r.tr = .dist d i.args ov (ds.lp d ov i.args) ∧ r.bwd = [([], .masked false ov)]) := by
  cases (leaf_upd ho).symm.trans h
  refine ⟨?_, ?_, ?_, ?_⟩
  · intro hc; simp [validValue, hc]
  · intro v hc; simp [validValue, hc]
  · intro v hc; simp [validValue, hc]
  · intro v hc; simp [validValue, hc]

/-- The full statement also covers switch-index changes; there the implementation draws a fresh
    trace (new random choices), which the property excludes ("whenever no new random choice is
    introduced"), hence the `Safe` hypothesis above.  Non-vacuity (a test): -/
example : Safe false Test.prog1 := by simp [Test.prog1, Safe, SafeBody]

end GenjaxVerif.GFI
