import GenjaxVerif.Lemmas.GFIUpdate
import GenjaxVerif.Props.GFITest
/-!
# C12 — scan and its derived combinators match the documented Python loops

`scanLoop f k key carry xs` is the documented loop: for each scanned element in order, run the
kernel on `(carry, x)` with the iteration's key, take the new carry from its return value.
-/
namespace GenjaxVerif.GFI
open GenjaxVerif CMap

/-- For every mode: the scan visits the scanned inputs in order, iteration `k` getting the carry
    produced by iteration `k-1`, the sub-constraint at index `k` and (for edits) the `k`-th previous
    subtrace; the final carry and the stacked outputs are exactly those of the loop over the
    kernel's return values; score and weight are sums; iteration `k`'s choices sit under index `k`. -/
theorem C12_scan_is_the_loop (ds : DistSem) (m : Mode) (p : Prog) (len : Option Nat) (i : In) (r : Res)
    (h : run ds m (.scan p len) i = .ok r) :
    ∃ carry xs rs fin ys, scanArgs len i.args = .ok (carry, xs) ∧ rs.length = xs.length ∧
      (∀ k (hk : k < rs.length) (hx : k < xs.length), ∃ key c ik,
          scanElem m i k key c xs[k] = .ok ik ∧ run ds m p ik = .ok rs[k]) ∧
      rs.mapM secondOfRet = .ok ys ∧
      r.tr = .vec i.args (.tup [fin, .arr ys]) (rs.map (·.tr)) ∧
      r.w = sumW rs ∧ r.tr.score = Trace.scoreL (rs.map (·.tr)) ∧
      r.tr.choices = Trace.choicesL 0 (rs.map (·.tr)) := by
  obtain ⟨carry, xs, hsa, _, rs, fin, hloop, ys, hys, rfl⟩ := scanRun_ok.1 h
  obtain ⟨hl, hg⟩ := scanLoop_get hloop
  refine ⟨carry, xs, rs, fin, ys, hsa, hl, fun k hk hx => ?_, hys, rfl, rfl, rfl, rfl⟩
  obtain ⟨key, c, hk'⟩ := hg k hk hx
  simp only [bind_eq_ok, Nat.zero_add] at hk'
  exact ⟨key, c, hk'⟩

/-- The final carry of an empty scan is the initial carry; of a non-empty one, the carry
    component of the last iteration's return value. -/
theorem C12_final_carry {f : Nat → KeyPath → Val → Val → Except Err Res} :
    ∀ {xs k key carry rs fin}, scanLoop f k key carry xs = .ok (rs, fin) →
      (rs = [] → fin = carry) ∧
      (∀ r, rs.getLast? = some r → ∃ y, r.tr.ret = .tup [fin, y]) := by
  intro xs
  induction xs with
  | nil =>
    intro k key carry rs fin h
    obtain ⟨rfl, rfl⟩ := scanLoop_nil.1 h
    exact ⟨fun _ => rfl, nofun⟩
  | cons x xs ih =>
    intro k key carry rs fin h
    obtain ⟨r, c', y, rs', _, hret, h3, rfl⟩ := scanLoop_cons.1 h
    obtain ⟨ih1, ih2⟩ := ih h3
    refine ⟨nofun, fun rl hrl => ?_⟩
    cases rs' with
    | nil =>
      cases hrl
      exact ⟨y, hret.trans (by rw [ih1 rfl])⟩
    | cons r2 rs2 => exact ih2 rl (by rwa [List.getLast?_cons_cons] at hrl)

/-- Iteration `k` is given the sub-map at index `k`; the choices it makes are found there. -/
theorem C12_iteration_input (m : Mode) (i ik : In) (k : Nat) (key : KeyPath) (c x : Val)
    (h : scanElem m i k key c x = .ok ik) :
    ik.c = CMap.sub i.c (.i k) ∧ ik.key = key ∧ ik.args = .tup [c, x] := by
  obtain ⟨_, _, rfl⟩ := scanElem_ok.1 h
  exact ⟨rfl, rfl, rfl⟩

/-- The derived combinators are the library's own compositions of scan, dimap and mask. -/
theorem C12_derived_defs (p : Prog) (n : Nat) :
    Derived.accumulate p = .dimap .id (.scan (Derived.map p (.tup [.var 2, .var 2])) none) Derived.prependInitialAcc ∧
    Derived.reduce p = Derived.map (.scan (Derived.map p (.tup [.var 2, .tup []])) none) (.proj (.var 2) 0) ∧
    Derived.iterate p n = .dimap .appendUnit (.scan (.dimap .dropLast p (.tup [.var 2, .var 2])) (some n))
      Derived.prependInitialAcc ∧
    Derived.iterateFinal p n = .dimap .appendUnit (.scan (.dimap .dropLast p (.tup [.var 2, .tup []])) (some n))
      (.proj (.var 2) 0) := ⟨rfl, rfl, rfl, rfl⟩

/-- What their return maps compute: `iterate_final` / `reduce` return the final carry of the
    scan, `iterate` / `accumulate` the initial value followed by the stacked carries. -/
theorem C12_derived_return_maps (args xf fin : Val) (ys : List Val) (init : Val) (rest : List Val) :
    Expr.eval [args, xf, .tup [fin, .arr ys]] (.proj (.var 2) 0) = .ok fin ∧
    Expr.eval [.tup (init :: rest), xf, .tup [fin, .arr ys]] Derived.prependInitialAcc = .ok (.arr (init :: ys)) :=
  ⟨rfl, rfl⟩

/-- test: the model on a concrete `iterate` -/
example : (run Test.ds .sim (Derived.iterate (.dist 1) 2) { Test.in1 with args := .tup [.int 5] }).toOption.map
    (fun r => r.tr.ret) = some (.arr [.int 5, .int 2, .int 2]) := by rfl

end GenjaxVerif.GFI

namespace GenjaxVerif.GFI
open GenjaxVerif

/-- Index edits of a scan (as repaired in /repo: `fix: Scan.edit_index returns the scan's final
    carry`): iteration `idx` is edited with its recorded arguments; a following iteration is
    re-scored with the new carry and must return what it returned before, and then the final
    carry is the old one; at the last index the final carry is the edited iteration's; the stacked
    outputs change only at `idx`; the weight is the sum of the (at most two) edits' weights. -/
theorem C12_index_edit (ds : DistSem) (m : Mode) (p : Prog) (len : Option Nat) (key : KeyPath)
    (args oldFin : Val) (ys : List Val) (elems : List Trace) (idx : Nat) (c : CMap) (sel : Sel) (r : Res)
    (h : editIndex ds m (.scan p len) key (.vec args (.tup [oldFin, .arr ys]) elems) idx c sel = .ok r) :
    ∃ (hk : idx < elems.length) (r' : Res) (carry' y' : Val),
      run ds m p { c, sel, old := some elems[idx], key, args := elems[idx].args } = .ok r' ∧
      r'.tr.ret = .tup [carry', y'] ∧ r.bwd = CMap.pre [.i idx] r'.bwd ∧
      ((h1 : idx + 1 < elems.length) → ∃ (rn : Res) (x carryOld : Val), elems[idx + 1].args = .tup [carryOld, x] ∧
          run ds .upd p { c := [], sel := .none, old := some elems[idx + 1], key, args := .tup [carry', x] } = .ok rn ∧
          rn.tr.ret.beq elems[idx + 1].ret = true ∧
          r.tr = .vec args (.tup [oldFin, .arr (ys.set idx y')]) ((elems.set idx r'.tr).set (idx + 1) rn.tr) ∧
          r.w = r'.w + rn.w) ∧
      (¬ idx + 1 < elems.length →
          r.tr = .vec args (.tup [carry', .arr (ys.set idx y')]) (elems.set idx r'.tr) ∧ r.w = r'.w) :=
  scan_index_edit ds m p len key args oldFin ys elems idx c sel r h

end GenjaxVerif.GFI
