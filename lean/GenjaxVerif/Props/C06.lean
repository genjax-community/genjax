import GenjaxVerif.Lemmas.GFIUpdate
import GenjaxVerif.Props.GFITest
/-!
# C06 — backward requests undo edits exactly
-/
namespace GenjaxVerif.GFI
open GenjaxVerif

/-- The full statement over the model: for every accepted update, applying the returned backward
    constraint to the new trace with the original arguments restores the original trace's
    observations with the negated weight. -/
def C06_full : Prop :=
  ∀ (ds : DistSem) (p : Prog) (k k' : KeyPath) (t : Trace) (c : CMap) (a0 a : Val) (r : Res),
    simulate ds p k a0 = .ok t → update ds p k' t c a = .ok r →
    ∃ r', update ds p k' r.tr r.bwd a0 = .ok r' ∧ r'.w = - r.w ∧ r'.tr.score = t.score ∧
      r'.tr.choices = t.choices

/-- Proved part, at a primitive choice (any distribution, values, arguments): overwrite, then apply
    the backward constraint with the original arguments — the original trace comes back and the
    weights cancel.  Unconstrained updates (argument change only) round-trip too. -/
theorem C06_leaf_roundtrip_partial (ds : DistSem) (d : Nat) (a a' : Val) (ov : Int) (i i2 : In) (r r2 : Res)
    (ho : i.old = some (.dist d a ov (ds.lp d ov a))) (ha : i.args = a')
    (hc : i.c.leaf = none ∨ ∃ v, i.c.leaf = some (.plain v))
    (h : leaf ds .upd d i = .ok r)
    (h2o : i2.old = some r.tr) (h2a : i2.args = a) (h2c : i2.c = r.bwd)
    (h2 : leaf ds .upd d i2 = .ok r2) :
    r2.tr = .dist d a ov (ds.lp d ov a) ∧ r2.w = - r.w := by
  cases (leaf_upd ho).symm.trans h
  rw [leaf_upd h2o, h2c] at h2
  cases h2
  -- the second update reads back what the first recorded (nothing, or `ov`), so its value is `ov` in both arms
  rcases hc with hc | ⟨v, hc⟩
  · simp only [validValue, hc, h2a]
    exact ⟨rfl, (Int.neg_sub _ _).symm⟩
  · simp only [validValue, hc, h2a]
    exact ⟨rfl, (Int.neg_sub _ _).symm⟩

/-- The backward constraint of a static function is the concatenation of its callees' backward
    constraints, each under the callee's address (`make_bwd_request`); of a vector combinator, the
    elements' under their indices. -/
theorem C06_backward_structure (st : SState) (addr : List String) (r : Res) :
    (bindOut st addr r).bwd = st.bwd ++ CMap.pre (addr.map Comp.s) r.bwd := rfl

/-- REFUTED in general (of the model, as of the implementation): when an update drops a mask flag
    and carries a constraint, the backward constraint is masked by the NEW (false) flag and cannot
    restore the overwritten value.  Witness: `mask(d1)` at flag 1, updated to flag 0 with x := 4. -/
theorem C06_refuted : ¬ C06_full := by
  intro h
  have h1 : simulate Test.ds Test.progMask [0] (.tup [.int 1, .int 7]) =
      .ok (.mask true (.dist 1 (.tup [.int 7]) 2 13)) := rfl
  have h2 : update Test.ds Test.progMask [0] (.mask true (.dist 1 (.tup [.int 7]) 2 13))
      [([], .plain 4)] (.tup [.int 0, .int 7]) =
      .ok ⟨.mask false (.dist 1 (.tup [.int 7]) 4 15), -13, [([], .masked false 2)], true⟩ := rfl
  obtain ⟨r', hr', _, hs, _⟩ := h Test.ds Test.progMask [0] [0] _ _ _ _ _ h1 h2
  have h3 : update Test.ds Test.progMask [0] (.mask false (.dist 1 (.tup [.int 7]) 4 15))
      [([], .masked false 2)] (.tup [.int 1, .int 7]) =
      .ok ⟨.mask true (.dist 1 (.tup [.int 7]) 4 15), 15, [([], .masked false 4)], true⟩ := rfl
  have : r' = ⟨.mask true (.dist 1 (.tup [.int 7]) 4 15), 15, [([], .masked false 4)], true⟩ := by
    have := hr'.symm.trans h3; cases this; rfl
  subst this
  revert hs; decide

/-- `Switch.edit` (as repaired in /repo) returns the executed branch's backward request when the
    index is tagged unchanged. -/
theorem C06_switch_backward_is_the_branchs (ds : DistSem) (ps : List Prog) (i : In) (r : Res) (a : Val) (oidx : Nat)
    (osub : Trace) (ho : i.old = some (.switch a oidx osub)) (hch : i.changed = false)
    (h : run ds .upd (.switch ps) i = .ok r) :
    ∃ ba r', runNth ds .upd ps oidx { i with old := some osub, args := ba } = .ok r' ∧ r.bwd = r'.bwd ∧ r.bwdOk = r'.bwdOk := by
  obtain ⟨ba, _, r', hr, rfl⟩ := (run_switch_upd_same ho hch).1 h
  exact ⟨ba, r', hr, rfl, rfl⟩

/-- The backward request of a `StaticRequest` addresses every call the function made — in the order
    of the calls, each under its own address — with that call's own backward request; the new trace
    holds those calls' traces under the same addresses and the weight is the sum of their weights. -/
theorem C06_static_request_backward (ds : DistSem) (b : Body) (k : KeyPath) (t : Trace) (req : List String → SubReq)
    (a : Val) (ch : Bool) (r : Res) (h : staticRequest ds (.static b) k t req a ch = .ok r) :
    ∃ calls : List (List String × Res), calls.map (·.1) = Body.addrs b ∧
      r.bwd = (calls.map fun c => CMap.pre (c.1.map Comp.s) c.2.bwd).flatten ∧
      r.w = (calls.map (·.2.w)).sum ∧
      ∃ ret, r.tr = .static a ret (calls.map fun c => (c.1, c.2.tr)) := by
  simp only [staticRequest, staticRun, bind_eq_ok, pure_eq_ok] at h
  obtain ⟨env, _, olds, _, ⟨st, v⟩, h3, rfl⟩ := h
  obtain ⟨calls, hc, hs, hw, hb⟩ := reqBody_calls ds req b _ olds env {} st v h3
  -- the handler starts from the empty state
  exact ⟨calls, hc, hb.trans (List.nil_append _), hw.trans (Int.zero_add _), v,
    congrArg (Trace.static a v) (hs.trans (List.nil_append _))⟩

end GenjaxVerif.GFI
