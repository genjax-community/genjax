import GenjaxVerif.Lemmas.GFIRun
import GenjaxVerif.Model.Derived
import GenjaxVerif.Props.GFITest
/-!
# C13 — switch, or_else and mix follow exactly one branch consistently
-/
namespace GenjaxVerif.GFI
open GenjaxVerif

/-- simulate / assess / generate of `switch(ps)` with an in-range index `k`: everything observable
    (trace contents, score, return value, choices, weight) is that of branch `k` run on its own
    argument tuple with the same key and constraint. -/
theorem C13_switch_is_branch (ds : DistSem) (m : Mode) (hm : m = .sim ∨ m = .assess ∨ m = .gen)
    (ps : List Prog) (i : In) (r : Res) (h : run ds m (.switch ps) i = .ok r) :
    ∃ idx ba r', switchArgs ps.length i.args = .ok (idx, ba) ∧
      runNth ds m ps idx { i with args := ba } = .ok r' ∧
      r.tr = .switch i.args idx r'.tr ∧ r.w = r'.w ∧ r.tr.score = r'.tr.score ∧
      r.tr.ret = r'.tr.ret ∧ r.tr.choices = r'.tr.choices := by
  obtain ⟨idx, ba, hsa, r', hr, rfl⟩ := (run_switch_plain hm).1 h
  exact ⟨idx, ba, r', hsa, hr, rfl, rfl, rfl, rfl, rfl⟩

/-- An update whose index is tagged unchanged edits the executed branch only, and its weight,
    score and backward constraint are that branch's. -/
theorem C13_switch_update_same_branch (ds : DistSem) (ps : List Prog) (i : In) (r : Res) (a : Val) (oidx : Nat)
    (osub : Trace) (ho : i.old = some (.switch a oidx osub)) (hch : i.changed = false)
    (h : run ds .upd (.switch ps) i = .ok r) :
    ∃ ba r', switchArgs ps.length i.args = .ok (oidx, ba) ∧
      runNth ds .upd ps oidx { i with old := some osub, args := ba } = .ok r' ∧
      r.tr = .switch i.args oidx r'.tr ∧ r.w = r'.w ∧ r.bwd = r'.bwd := by
  obtain ⟨ba, hsa, r', hr, rfl⟩ := (run_switch_upd_same ho hch).1 h
  exact ⟨ba, r', hsa, hr, rfl, rfl, rfl⟩

/-- The index is taken from the first argument and CLAMPED to the branches; branch `k` receives the
    `k`-th argument tuple. -/
theorem C13_switch_args (n : Nat) (idxv : Int) (bargs : List Val) (k : Nat) (a : Val)
    (h : switchArgs n (.tup (.int idxv :: bargs)) = .ok (k, a)) :
    k = clampIdx n idxv ∧ bargs[k]? = some a := by
  simp only [switchArgs, ite_error_eq_ok] at h
  obtain ⟨_, h⟩ := h
  split at h
  · next x hx => cases h; exact ⟨rfl, hx⟩
  · cases h

/-- Clamping: in range the index is itself, below range branch 0, above range the last branch. -/
theorem C13_clamp (n : Nat) (idxv : Int) (hn : 0 < n) :
    clampIdx n idxv < n ∧
    (0 ≤ idxv ∧ idxv < n → (clampIdx n idxv : Int) = idxv) ∧
    (idxv < 0 → clampIdx n idxv = 0) ∧ (idxv ≥ n → clampIdx n idxv = n - 1) := by
  unfold clampIdx
  -- one case per arm of `jnp.clip`
  by_cases h0 : idxv < 0
  · rw [if_pos h0]
    exact ⟨hn, fun h => absurd h0 (Int.not_lt.2 h.1), fun _ => rfl,
      fun h => absurd h0 (Int.not_lt.2 (Int.le_trans (Int.natCast_nonneg n) h))⟩
  · rw [if_neg h0]
    by_cases h1 : idxv ≥ n
    · rw [if_pos h1]
      exact ⟨Nat.sub_lt hn Nat.one_pos, fun h => absurd h.2 (Int.not_lt.2 h1), fun h => absurd h h0, fun _ => rfl⟩
    · rw [if_neg h1]
      have hz : 0 ≤ idxv := Int.not_lt.1 h0
      exact ⟨(Int.toNat_lt hz).2 (Int.not_le.1 h1), fun _ => Int.toNat_of_nonneg hz, fun h => absurd h h0,
        fun h => absurd h h1⟩

/-- `or_else(p, q)` is `switch(p, q)` on the index `int(not flag)`: flag true runs the if-branch,
    flag false the else-branch (this is how the library defines it). -/
theorem C13_orElse_def (p q : Prog) :
    Derived.orElse p q = .dimap (.exprs [.notb (.var 0), .var 1, .var 2]) (.switch [p, q]) Derived.retId := rfl

theorem C13_orElse_index (b : Int) (ia ea : Val) :
    Pre.apply (.exprs [.notb (.var 0), .var 1, .var 2]) [.int b, ia, ea] =
      .ok [.int (if b = 0 then 1 else 0), ia, ea] := by
  -- the three expressions evaluate by definition, `notb` to `Val.ofBool (b == 0)`
  show Except.ok [Val.ofBool (b == 0), ia, ea] = _
  simp only [Val.ofBool, beq_iff_eq]

end GenjaxVerif.GFI
