import GenjaxVerif.Lemmas.GFIReplay
import GenjaxVerif.Props.GFITest
/-!
# C01 — every trace agrees with `assess` on its own choices and arguments

`run ds m p i` is the model of simulate / generate / update / regenerate (mode `m`) of the
program `p`; `assess ds p c a` is `assess`.
-/
namespace GenjaxVerif.GFI
open GenjaxVerif

/-- The property at full strength: for every program, every operation (any mode, any key,
    constraint, selection, previous trace, arguments) and every trace it returns,
    `assess(trace.choices, args) = (trace.score, trace.retval)`. -/
def C01_full : Prop :=
  ∀ (ds : DistSem) (m : Mode) (p : Prog) (i : In) (r : Res), run ds m p i = .ok r →
    assess ds p r.tr.choices i.args = .ok (r.tr.score, r.tr.ret)

/-- Proved part: the full statement for every trace in which every traced call of a
    static function made at least one random choice under pairwise prefix-free addresses
    (`Good`, a decidable predicate on the returned trace).  The trace may come from ANY
    operation on ANY previous trace, so this covers arbitrary edit histories. -/
theorem C01_trace_assess_partial (ds : DistSem) (m : Mode) (p : Prog) (i : In) (r : Res)
    (h : run ds m p i = .ok r) (hg : Good r.tr) :
    assess ds p r.tr.choices i.args = .ok (r.tr.score, r.tr.ret) := by
  have := replay ds m p i r h hg
    { c := r.tr.choices, sel := .none, old := none, key := [], args := i.args } rfl rfl rfl
  simp [assess, this, replayed, Except.map]

/-- The same, phrased exactly as the property: with the trace's OWN recorded arguments
    (`trace.get_args()`), which are the arguments the operation was given (`run_args`). -/
theorem C01_trace_assess_own_args_partial (ds : DistSem) (m : Mode) (p : Prog) (i : In) (r : Res)
    (h : run ds m p i = .ok r) (hg : Good r.tr) :
    assess ds p r.tr.choices r.tr.args = .ok (r.tr.score, r.tr.ret) := by
  rw [run_args ds m p i r h]; exact C01_trace_assess_partial ds m p i r h hg

/-- Stronger form: `assess` rebuilds exactly the same trace, with weight its score. -/
theorem C01_assess_rebuilds_trace (ds : DistSem) (m : Mode) (p : Prog) (i : In) (r : Res)
    (h : run ds m p i = .ok r) (hg : Good r.tr) (j : In) (hc : j.c = r.tr.choices)
    (ha : j.args = i.args) (ho : j.old = none) :
    run ds .assess p j = .ok ⟨r.tr, r.tr.score, [], true⟩ :=
  replay ds m p i r h hg j hc ha ho

/-- The full statement is FALSE of the model (as it is of the implementation): a traced call
    that makes no random choice leaves an empty sub-map, and `AssessHandler` raises
    `MissingAddress` on it.  Witness: `@gen def f(): g() @ "y"` with `g` choice-free. -/
theorem C01_refuted : ¬ C01_full := by
  intro h
  have h1 : run Test.ds .sim Test.progEmpty Test.in0 =
      .ok ⟨.static (.tup []) (.int 0) [(["y"], .static (.tup []) (.int 0) [])], 0, [], true⟩ := rfl
  have h2 := h Test.ds .sim Test.progEmpty Test.in0 _ h1
  have h3 : assess Test.ds Test.progEmpty [] (.tup []) = .error .missing := rfl
  have h4 : assess Test.ds Test.progEmpty [] (.tup []) = .ok (0, .int 0) := h2
  rw [h3] at h4
  cases h4

/-- Non-vacuity (a test): the hypotheses of the partial theorem hold for a concrete
    non-trivial simulated trace. -/
example : ∃ r, run Test.ds .sim Test.prog1 Test.in1 = .ok r ∧ Good r.tr ∧ r.tr.score = 27 := by
  refine ⟨⟨Test.trace1, 0, [], true⟩, rfl, ?_, rfl⟩
  simp [Test.trace1, Good, GoodAL, GoodL, CMap.Incomp, Trace.choices, Trace.choicesL, CMap.pre]

end GenjaxVerif.GFI
