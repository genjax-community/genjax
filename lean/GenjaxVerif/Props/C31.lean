import GenjaxVerif.Lemmas.TimeTravel
/-!
# C31 — the time-travel debugger records and replays executions faithfully

Statements about the model of `time_travel.py` (`Model/TimeTravel.lean`) for ALL programs with
record points (`Code`: any equation list, record points nested to any depth, any tags), ALL
primitive semantics `sem`, all constants and arguments.

Standing hypothesis `RecSem sem code`: binding a `record_p` equation evaluates its staged
callable (that is what `initial_style_bind`'s `_impl` does) and the primitive has
`multiple_results`.  Nothing else is assumed about `sem`; results are equal as `Except` values,
so errors are raised in the same situations with the same error.

The reference is `evalLog` / `logStack`: ordinary direct-style evaluation that logs each
record-point call (tag, arguments, return value) when it is made — it has no continuations,
no frames, no re-staging.
-/
namespace GenjaxVerif.TT
open GenjaxVerif.IR

/-- One frame per recorded call, in execution order (pre-order), with that call's arguments and
    local return value; `final_retval` is the instrumented run's result; `jump_points` map each
    truthy tag to its last call — for `_record(source)` of ANY staged source / continuation. -/
theorem C31_record_is_the_call_log (sem : Sem) (segs : List Seg) (args : List Val) (h : RecSemS sem segs) :
    (record sem segs args).map Debugger.obs =
      (logStack sem args segs).map (fun p => (p.1, p.2.map Entry.obs, jumpsOf [] 0 p.2)) :=
  record_obs sem segs args h

/-- `time_machine(f)(*args)`: the recorded frames are exactly the call log of the instrumented
    plain evaluator run on `instrumented = tag(rec(f, "_enter")(*args), "exit")`. -/
theorem C31_frames_are_the_call_log (sem : Sem) (src : Fn) (args : List Val)
    (h : RecSem sem (instrument src).body) :
    (timeMachine sem src args).map Debugger.obs =
      (evalLog sem (instrument src) args).map (fun p => (p.1, p.2.map Entry.obs, jumpsOf [] 0 p.2)) :=
  record_obs sem [.call (instrument src)] args ⟨h, trivial⟩

/-- For any staged source `g`, `_record(g)(*args)` ends with `g(*args)`. -/
theorem C31_record_final_eq_plain (sem : Sem) (f : Fn) (args : List Val) (h : RecSem sem f.body) :
    (record sem [.call f] args).map (·.final) = evalPlain sem f.jaxpr f.cs args := by
  rw [← runStack_call, log_fst_stack sem [.call f] args ⟨h, trivial⟩]
  have := congrArg (Except.map Prod.fst) (record_obs sem [.call f] args ⟨h, trivial⟩)
  rwa [map_map', map_map'] at this

/-- `final_retval` is what ordinary evaluation (`jax.core.eval_jaxpr`) of the instrumented
    function returns. -/
theorem C31_final_eq_plain (sem : Sem) (src : Fn) (args : List Val) (h : RecSem sem (instrument src).body) :
    (timeMachine sem src args).map (·.final) =
      evalPlain sem (instrument src).jaxpr (instrument src).cs args :=
  C31_record_final_eq_plain sem (instrument src) args h

/-- Error / edge case: the fuel of the modelled `while next:` loop is never exhausted — a
    recording fails only with an error of the program itself. -/
theorem C31_record_error_is_program_error (sem : Sem) (segs : List Seg) (args : List Val) (h : RecSemS sem segs)
    (x : Err) (hx : record sem segs args = .error x) : ∃ y, logStack sem args segs = .error y ∧ y = x := by
  have := record_obs sem segs args h
  rw [hx] at this
  exact ⟨x, map_eq_error.1 this.symm, rfl⟩

/-- Edge case: a continuation without record points yields no frame and the plain result. -/
theorem C31_no_record_points (sem : Sem) (segs : List Seg) (args : List Val) (h : RecSemS sem segs)
    (vals : List Val) (hl : logStack sem args segs = .ok (vals, [])) :
    (record sem segs args).map Debugger.obs = .ok (vals, [], []) := by
  rw [record_obs sem segs args h, hl]; rfl

/-- One successful `jump` / `fwd` / `bwd` keeps the invariant (the pointer and every jump target index a
    recorded frame) and leaves the recording untouched. -/
theorem C31_step_preserves_inv (sem : Sem) (d : Debugger) (op : Op) (hop : op.isNav = true) (h : d.Inv) :
    ∀ d', d.step sem op = .ok d' → d'.Inv ∧ d'.frames = d.frames ∧ d'.jumps = d.jumps ∧ d'.final = d.final := by
  intro d' hd
  obtain ⟨i, hi, rfl⟩ := Debugger.step_nav hop h hd
  exact ⟨⟨hi, h.2⟩, rfl, rfl, rfl⟩

/-- After ANY sequence of `jump` / `fwd` / `bwd` (failed jumps included: a `KeyError` leaves the
    debugger as it was) the pointer indexes a recorded frame, and the recording is untouched. -/
theorem C31_pointer_in_range (sem : Sem) (ops : List Op) : ∀ (d : Debugger), d.Inv →
    (∀ op ∈ ops, op.isNav = true) →
    (d.run sem ops).Inv ∧ (d.run sem ops).frames = d.frames ∧ (d.run sem ops).final = d.final := by
  intro d h hall
  obtain ⟨i, hi, e⟩ := Debugger.run_nav ops h hall
  rw [e]
  exact ⟨⟨hi, h.2⟩, rfl, rfl⟩

/-- A successful recording that logged at least one call (always the case for `time_machine`:
    the `_enter` call) starts inside the recorded frames, with every jump point in range. -/
theorem C31_initial_in_range (sem : Sem) (segs : List Seg) (args : List Val) (h : RecSemS sem segs)
    (d : Debugger) (hd : record sem segs args = .ok d) (hne : d.frames ≠ []) : d.Inv := by
  have hobs := record_obsP sem segs args h
  rw [hd] at hobs
  obtain ⟨p, _, hp⟩ := map_eq_ok.1 hobs.symm
  have hfr : p.2.map Entry.obs = d.frames.map Frame.obs := congrArg (·.2.1) hp
  have hj : jumpsOf [] 0 p.2 = d.jumps := congrArg (·.2.2.1) hp
  have hptr : 0 = d.ptr := congrArg (·.2.2.2) hp
  have hlen : p.2.length = d.frames.length := by rw [← List.length_map (f := Entry.obs), hfr, List.length_map]
  refine ⟨hptr ▸ List.length_pos_iff.mpr hne, fun t i hji => ?_⟩
  rw [← hj] at hji
  have := jumpsOf_range p.2 [] 0 (fun t i ht => by cases ht) t i hji
  rwa [Nat.zero_add, hlen] at this

/-- `remix(*args)` at the frame under the pointer: the frames before the pointer are kept, the
    frame under the pointer gets the new arguments and the callable's value on them, and what
    follows — the later frames and `final_retval` — is the instrumented plain evaluation of that
    frame's continuation (the callable, then the rest of the program as captured when the frame
    was recorded) from the new arguments; `jump_points` and the pointer are unchanged.  Failing
    cases: `IndexError` when the pointer is outside the frames, otherwise the error of the
    re-run. -/
theorem C31_remix_spec (sem : Sem) (d : Debugger) (args : List Val) (fr : Frame)
    (hfr : d.frames[d.ptr]? = some fr) (h : RecSemS sem fr.cont) :
    (d.remix sem args).map Debugger.obsP =
      (evalPlain sem fr.f.jaxpr fr.f.cs args >>= fun r =>
        (logStack sem args fr.cont).map (fun p =>
          (p.1, (d.frames.take d.ptr).map Frame.obs ++ (args, r) :: p.2.map Entry.obs, d.jumps, d.ptr))) := by
  simp only [Debugger.remix, hfr, runStack_call, map_bind']
  refine bind_congr fun r => ?_
  have := congrArg (Except.map fun o => (o.1, (d.frames.take d.ptr).map Frame.obs ++ (args, r) :: o.2.1, d.jumps, d.ptr))
    (record_obs sem fr.cont args h)
  rw [map_map', map_map'] at this
  rw [← this]
  cases record sem fr.cont args with
  | error x => rfl
  | ok d' =>
    simp only [bind_ok', Except.map, pure, Except.pure, Debugger.obsP, Debugger.obs, Frame.obs, List.map_append,
      List.map_cons, List.append_assoc, List.cons_append, List.nil_append]

/-- Remix with the recorded arguments is the identity on what is observable after the pointer
    exactly when the frame's continuation re-logs the same calls; in particular the new
    `final_retval` is `runStack` of the continuation — ordinary evaluation of "the callable, then
    the rest of the program". -/
theorem C31_remix_final (sem : Sem) (d : Debugger) (args : List Val) (fr : Frame)
    (hfr : d.frames[d.ptr]? = some fr) (h : RecSemS sem fr.cont) (d' : Debugger)
    (hd : d.remix sem args = .ok d') : runStack sem args fr.cont = .ok d'.final := by
  have hs := C31_remix_spec sem d args fr hfr h
  rw [hd] at hs
  rw [log_fst_stack sem fr.cont args h]
  cases he : evalPlain sem fr.f.jaxpr fr.f.cs args with
  | error x => rw [he] at hs; cases hs
  | ok r =>
    rw [he] at hs
    obtain ⟨p, hp, hpd⟩ := map_eq_ok.1 hs.symm
    rw [hp]; exact congrArg Except.ok (congrArg Prod.fst hpd)

/-- Error case: remix with the pointer outside the frames raises (`IndexError`). -/
theorem C31_remix_out_of_range (sem : Sem) (d : Debugger) (args : List Val) (h : d.frames.length ≤ d.ptr) :
    d.remix sem args = .error (.prim "IndexError") := by
  rw [Debugger.remix, List.getElem?_eq_none h]

/-- Immediately after a successful remix the pointer still indexes a frame. -/
theorem C31_remix_pointer (sem : Sem) (d d' : Debugger) (args : List Val) (hd : d.remix sem args = .ok d') :
    d'.ptr = d.ptr ∧ d'.ptr < d'.frames.length ∧ d'.jumps = d.jumps := by
  cases hfr : d.frames[d.ptr]? with
  | none => rw [Debugger.remix, hfr] at hd; cases hd
  | some fr =>
    rw [Debugger.remix, hfr] at hd
    obtain ⟨r, _, hd⟩ := bind_eq_ok.1 hd
    obtain ⟨d2, _, hd⟩ := bind_eq_ok.1 hd
    cases hd
    refine ⟨rfl, ?_, rfl⟩
    have hlt : d.ptr < d.frames.length := (List.getElem?_eq_some_iff.mp hfr).1
    rw [List.length_append, List.length_append, List.length_take, Nat.min_eq_left (Nat.le_of_lt hlt), Nat.add_assoc]
    exact Nat.lt_add_of_pos_right (Nat.add_pos_left Nat.one_pos _)

end GenjaxVerif.TT

/-! ## Non-vacuity: concrete programs satisfying the hypotheses, and concrete recordings -/
namespace GenjaxVerif.TT
open GenjaxVerif.IR Ex

/-- `RecSem` holds for a concrete semantics and the instrumented `f(x) = x + x`
    (two record equations: `_enter` around `f`, and `exit`). -/
theorem C31_example_recsem : RecSem exSem (instrument exSrc).body := by
  refine ⟨rfl, ?_, trivial, rfl, ?_, trivial, trivial⟩
  · intro vs
    rcases vs with _ | ⟨a, _ | ⟨b, t⟩⟩
    · rfl
    · rfl
    · simp [exSem, recParams, Params.find, Fn.jaxpr, exSrc, Code.eqns, Eqn.prim, Eqn.params, runStack,
        Seg.enter, Env.writeMany, Except.map, bind_ok', bind_err']
  · intro vs
    rcases vs with _ | ⟨a, _ | ⟨b, t⟩⟩
    · rfl
    · rfl
    · simp [exSem, recParams, Params.find, Fn.jaxpr, exSrc, idFn, Code.eqns, Eqn.prim, Eqn.params,
        runStack, Seg.enter, Env.writeMany, Except.map, bind_ok', bind_err']

/-- … so the theorems apply to it, and its recording is: two frames (`_enter`, `exit`). -/
example : (timeMachine exSem exSrc [sc 3]).map Debugger.obs =
    .ok ([sc 6], [([sc 3], [sc 6]), ([sc 6], [sc 6])], [("_enter", 0), ("exit", 1)]) := by decide +kernel

example : evalPlain exSem (instrument exSrc).jaxpr (instrument exSrc).cs [sc 3] = .ok [sc 6] := by
  rw [← C31_final_eq_plain exSem exSrc [sc 3] C31_example_recsem]; decide +kernel

/-- Nested record points, a repeated tag, pre-order: `_enter`, `out`, `in`, the tag `out`, `exit`;
    the jump point of the repeated tag is its LAST frame. -/
example : (timeMachine (exSemN 4) exNested [sc 2]).map Debugger.obs =
    .ok ([sc 8], [([sc 2], [sc 8]), ([sc 2], [sc 6]), ([sc 2], [sc 4]), ([sc 8], [sc 8]), ([sc 8], [sc 8])],
      [("_enter", 0), ("out", 3), ("in", 2), ("exit", 4)]) := by decide +kernel

/-- … which is the call log of the instrumented plain evaluator. -/
example : (timeMachine (exSemN 4) exNested [sc 2]).map Debugger.obs =
    (evalLog (exSemN 4) (instrument exNested) [sc 2]).map (fun p => (p.1, p.2.map Entry.obs, jumpsOf [] 0 p.2)) := by
  decide +kernel

/-- The initial debugger satisfies the navigation invariant (hypothesis of `C31_pointer_in_range`),
    and a session with a failing jump, clamped moves and a jump to the repeated tag stays in range. -/
example : ∃ d, timeMachine (exSemN 4) exNested [sc 2] = .ok d ∧ d.frames ≠ [] ∧
    (d.run (exSemN 4) [.bwd, .jump "nosuch", .jump "out", .fwd, .fwd, .fwd]).ptr = 4 :=
  exists_ok_of_decide (by decide +kernel)

/-- Remix at the frame tagged "in" with the new argument 5: the frames before it are kept (stale),
    the frame becomes (5, 10), and the rest is recomputed: out = 10 + 2, f = 12 + 2. -/
example : ∃ d d1 d2, timeMachine (exSemN 4) exNested [sc 2] = .ok d ∧ d.jump "in" = .ok d1 ∧
    d1.remix (exSemN 4) [sc 5] = .ok d2 ∧
    d2.obsP = ([sc 14], [([sc 2], [sc 8]), ([sc 2], [sc 6]), ([sc 5], [sc 10]), ([sc 14], [sc 14]), ([sc 14], [sc 14])],
      [("_enter", 0), ("out", 3), ("in", 2), ("exit", 4)], 2) := by
  refine ⟨_, _, _, rfl, rfl, rfl, ?_⟩
  decide +kernel

end GenjaxVerif.TT
