import GenjaxVerif.Props.C15
/-!
# C32 — generative function closures and keyword handling are transparent

A closure `gen_fn(*stored)` is modelled as the contramap that prepends the stored arguments
(`Derived.closure`), which is what `GenerativeFunctionClosure`'s methods do (`full_args =
self.args + args`).  Keyword arguments are merged into the same call by `handle_kwargs`; the
harness exercises them, the model treats a keyword call as the corresponding positional call.
-/
namespace GenjaxVerif.GFI
open GenjaxVerif

theorem evalL_lits (env : List Val) (xs : List Int) :
    Expr.evalL env (xs.map Expr.lit) = .ok (xs.map Val.int) := by
  rw [evalL_eq_mapM, List.mapM_map]
  exact List.mapM_pure ..

theorem evalL_vars (env : List Val) (n : Nat) (h : n ≤ env.length) :
    Expr.evalL env ((List.range n).map Expr.var) = .ok (env.take n) := by
  induction n with
  | zero => rfl
  | succ n ih =>
    have hn : n < env.length := h
    rw [evalL_eq_mapM] at ih ⊢
    rw [List.range_succ, List.map_append, List.mapM_append, ih (Nat.le_of_lt hn), List.take_add_one,
      List.getElem?_eq_getElem hn, List.map_singleton, List.mapM_cons, List.mapM_nil, Expr.eval,
      List.getElem?_eq_getElem hn]
    rfl

/-- The inner function is called with the stored arguments prepended to the call-time arguments. -/
theorem C32_closure_args (stored : List Int) (args : List Val) :
    Pre.apply (.exprs (stored.map Expr.lit ++ (List.range args.length).map Expr.var)) args =
      .ok (stored.map Val.int ++ args) := by
  rw [Pre.apply, evalL_eq_mapM, List.mapM_append, ← evalL_eq_mapM, ← evalL_eq_mapM, evalL_lits,
    evalL_vars args _ (Nat.le_refl _), List.take_length]
  rfl

/-- Every GFI method (every mode, including edit / update and regenerate) of a closure is the
    wrapped function's method on `stored ++ args`; choices, score, weight, backward request and
    return value are the wrapped function's. -/
theorem C32_closure_transparent (ds : DistSem) (m : Mode) (p : Prog) (stored : List Int) (args : List Val)
    (i : In) (r : Res) (ha : i.args = .tup args)
    (h : run ds m (Derived.closure p stored args.length) i = .ok r) :
    ∃ o r', dimapOld m i.old = .ok o ∧
      run ds m p { i with old := o, args := .tup (stored.map Val.int ++ args) } = .ok r' ∧
      r.tr.ret = r'.tr.ret ∧ r.w = r'.w ∧ r.bwd = r'.bwd ∧ r.tr.score = r'.tr.score ∧
      r.tr.choices = r'.tr.choices := by
  obtain ⟨as, ia, o, r', rv, has, hia, ho, hr', hrv, _, hret, hw, hb, hs, hc⟩ :=
    C15_dimap_transparent ds m _ p _ i r h
  rw [ha] at has
  simp [argList] at has; subst has
  rw [C32_closure_args] at hia
  simp at hia; subst hia
  refine ⟨o, r', ho, hr', ?_, hw, hb, hs, hc⟩
  rw [hret]
  simp [Derived.retId, Expr.eval] at hrv
  exact hrv.symm

end GenjaxVerif.GFI
