import GenjaxVerif.Lemmas.CMap
import GenjaxVerif.Model.Derived
import GenjaxVerif.Props.GFITest
/-!
# C34 — get_subtrace returns the sub-execution at an address
-/
namespace GenjaxVerif.GFI
open GenjaxVerif CMap

/-- For a static trace with pairwise prefix-free addresses: the subtrace at a traced address has
    as choices exactly the parent's sub-map at that address. -/
theorem C34_subtrace_choices (a r : Val) (subs : List (List String × Trace)) (addr : List String) (s : Trace)
    (hp : (subs.map (·.1)).Pairwise Incomp)
    (h : (Trace.static a r subs).subtrace addr = some s) :
    CMap.subStatic (Trace.static a r subs).choices addr = s.choices :=
  subStatic_choicesAL subs hp addr s (lookupSub_mem h)

theorem scoreAL_split (subs : List (List String × Trace)) (k : List String) (t : Trace) (h : (k, t) ∈ subs) :
    ∃ rest, Trace.scoreAL subs = t.score + rest := by
  induction subs with
  | nil => cases h
  | cons x xs ih =>
    rcases List.mem_cons.1 h with rfl | h
    · exact ⟨Trace.scoreAL xs, rfl⟩
    · obtain ⟨rest, hr⟩ := ih h
      exact ⟨x.2.score + rest, by rw [Trace.scoreAL, hr]; exact Int.add_left_comm ..⟩

/-- … and its score is that call's contribution to the parent's score (the parent's score is the
    subtrace's score plus the other calls'). -/
theorem C34_subtrace_score (a r : Val) (subs : List (List String × Trace)) (addr : List String) (s : Trace)
    (h : (Trace.static a r subs).subtrace addr = some s) :
    ∃ rest, (Trace.static a r subs).score = s.score + rest :=
  scoreAL_split subs addr s (lookupSub_mem h)

/-- Through switch, mask and dimap traces the lookup is delegated to the executed inner trace. -/
theorem C34_delegation (a r : Val) (k : Nat) (f : Bool) (inner : Trace) (addr : List String) :
    (Trace.switch a k inner).subtrace addr = inner.subtrace addr ∧
    (Trace.mask f inner).subtrace addr = inner.subtrace addr ∧
    (Trace.dimap a r inner).subtrace addr = inner.subtrace addr := ⟨rfl, rfl, rfl⟩

/-- test -/
example : (Test.trace1.subtrace ["y"]).map (·.score) = some 26 := by decide +kernel

end GenjaxVerif.GFI
