import GenjaxVerif.Lemmas.CMap
import GenjaxVerif.Lemmas.GFITrace
import GenjaxVerif.Props.GFITest
/-!
# C22 — the static language traces exactly the visited addresses, once each
-/
namespace GenjaxVerif.GFI
open GenjaxVerif CMap

/-- The recorded subtraces of a static function are exactly its `trace` statements, in execution
    order (one entry per statement, under that statement's — possibly tuple — address), for every
    operation; hence the choice map's top-level addresses are exactly the visited ones. -/
theorem C22_records_exactly_the_visited_addresses (ds : DistSem) (m : Mode) (b : Body) (i : In) (r : Res)
    (h : run ds m (.static b) i = .ok r) :
    ∃ ret subs, r.tr = .static i.args ret subs ∧ ShapeBody b subs ∧
      r.tr.choices = Trace.choicesAL subs := by
  have hs := run_shape ds m (.static b) i r h
  obtain ⟨_, _, _, _, st, v, _, rfl⟩ := run_static.1 h
  exact ⟨v, st.subs, rfl, hs, rfl⟩

/-- A tuple address nests hierarchically: its entries sit under the address's components in order,
    and the sub-map at the address is the callee's choice map. -/
theorem C22_tuple_addresses_nest (addr : List String) (c : CMap) :
    CMap.subStatic (CMap.pre (addr.map Comp.s) c) addr = c :=
  subStatic_pre_same addr c

/-- Tracing an address twice raises `AddressReuse`, in every operation: the second `trace` at an
    address already recorded fails before the callee runs. -/
theorem C22_address_reuse (m : Mode) (i : In) (olds : List (List String × Trace)) (st : SState)
    (addr : List String) (a : List Val) (t : Trace) (h : lookupSub st.subs addr = some t) :
    bindIn m i olds st addr a = .error .reuse := by
  simp [bindIn, h]

theorem C22_address_reuse_body (ds : DistSem) (m : Mode) (addr : List String) (p : Prog) (aes : List Expr)
    (rest : Body) (i : In) (olds env) (st : SState) (t : Trace) (h : lookupSub st.subs addr = some t) :
    ∀ x, runBody ds m (.bind addr p aes rest) i olds env st ≠ .ok x := by
  intro x hx
  obtain ⟨a, _, i', hi', _⟩ := runBody_bind.1 hx
  cases (C22_address_reuse m i olds st addr a t h).symm.trans hi'

/-- `assess` raises `MissingAddress` exactly when a visited (not yet recorded) address has an
    empty sub-map in the supplied choices. -/
theorem C22_missing_address_iff (i : In) (olds : List (List String × Trace)) (st : SState)
    (addr : List String) (a : List Val) (h : lookupSub st.subs addr = none) :
    bindIn .assess i olds st addr a = .error .missing ↔ (CMap.subStatic i.c addr).isEmpty = true := by
  simp only [bindIn, h, bindOld]
  constructor
  · intro hh
    by_cases hc : (CMap.subStatic i.c addr).isEmpty = true
    · exact hc
    · simp [hc] at hh
  · intro hc; simp [hc]

/-- tests -/
example : run Test.ds .sim (.static (.bind ["x"] (.dist 0) [] (.bind ["x"] (.dist 0) [] (.ret (.lit 0)))))
    Test.in0 = .error .reuse := by rfl
example : run Test.ds .assess Test.prog1 { Test.in1 with c := [([.s "x"], .plain 1)] } = .error .missing := by rfl

end GenjaxVerif.GFI
