import GenjaxVerif.Lemmas.Chm
import GenjaxVerif.Props.C18
/-!
# C33 — `invalid_subset` reports exactly the constraint addresses a model cannot trace

`addrs c` are the static addresses at which `c` holds a leaf (index levels transparent).
The theorems hold for every fuel value whenever the model returns a result.

Full statement `C33_full`; it is REFUTED by the faithful model (`C33_refuted`): for a choice map
containing a traced-index `Switch`, `Switch.filter` rebuilds a `Switch` whose branches are all
empty, which is not `static_is_empty`, so `invalid_subset` returns a non-`None` (empty) map although
every address is traceable.  Proved: the `_partial` theorems for switch-free, index-free maps
(`staticOnly c`), for every shape in the static fragment.
-/
namespace GenjaxVerif.Chm
open Sel

/-- One step of the accumulation loop of `_shape_selection`. -/
theorem mem_mkOr_extend (acc s : Sel) (k : String) (as : List (List String)) (q : List String)
    (hs : ∀ q', mem s q' = decide (q' ∈ as)) :
    mem (mkOr acc (Sel.extend s [some k])) q = (mem acc q || decide (q ∈ as.map (k :: ·))) := by
  rw [C18_mem_or, C18_mem_extend]
  congr 1
  cases q with
  | nil => exact (decide_eq_false nil_not_mem_map_cons).symm
  | cons x q' =>
    show (x == k && true && mem s q') = _
    rw [Bool.and_true, hs, Bool.eq_iff_iff, Bool.and_eq_true, beq_iff_eq, decide_eq_true_eq, decide_eq_true_eq]
    exact cons_mem_map_cons.symm

theorem shapeSelectionL_eq (m : List (String × Chm)) : shapeSelectionL m = shapeSelAccL .none m := by
  cases m with
  | nil => rw [shapeSelectionL, shapeSelAccL]
  | cons e r => rw [shapeSelectionL, shapeSelAccL]

theorem shapeSel_mem :
    (∀ c, staticOnly c = true → ∀ q, mem (shapeSelection c) q = decide (q ∈ addrs c)) ∧
    ∀ m, staticOnlyL m = true → ∀ acc q,
      mem (shapeSelAccL acc m) q = (mem acc q || decide (q ∈ addrsL m)) := by
  apply static_ind
  case stat =>
    intro m ih q
    rw [shapeSelection, shapeSelectionL_eq, ih, C18_mem_none, Bool.false_or, addrs]
  case choice =>
    intro l q
    rw [shapeSelection, C18_mem_leaf, addrs]
    cases q <;> rfl
  case nil =>
    intro acc q
    rw [shapeSelAccL, addrsL]
    exact (Bool.or_false _).symm
  case cons =>
    intro k c r ihc ihr acc q
    rw [shapeSelAccL, ihr, mem_mkOr_extend _ _ k _ q ihc, addrsL, Bool.or_assoc]
    simp only [List.mem_append, Bool.decide_or]

theorem shapeSelAccL_mem : ∀ (m : List (String × Chm)) (acc : Sel) (q : List String), staticOnlyL m = true →
    mem (shapeSelAccL acc m) q = (mem acc q || decide (q ∈ addrsL m)) :=
  fun m acc q hso => shapeSel_mem.2 m hso acc q

/-- The shape selection of a (static-fragment) shape selects exactly its addresses. -/
theorem C33_shapeSelection_mem (shape : Chm) (q : List String) (hs : staticOnly shape = true) :
    mem (shapeSelection shape) q = decide (q ∈ addrs shape) := shapeSel_mem.1 shape hs q

/-- Full-strength statement: `None` exactly when every address of the map is selected by the
    shape; for all well-formed choice maps. -/
def C33_full : Prop :=
  ∀ (k : Nat) (c shape : Chm) (r : Option Chm), wf c = true → invalidSubsetF k c shape = .ok r →
    (r = Option.none ↔ ∀ q ∈ addrs c, mem (shapeSelection shape) q = true)

theorem invalidSubset_ok {k : Nat} {c shape : Chm} {r : Option Chm} (h : invalidSubsetF k c shape = .ok r) :
    ∃ e, filterSelF k c (mkCompl (shapeSelection shape)) = .ok e ∧
      (r = Option.none ↔ staticIsEmpty e = true) ∧ ∀ e', r = some e' → e' = e := by
  obtain ⟨e, he, h⟩ := bind_eq_ok.1 h
  cases h
  refine ⟨e, he, ?_⟩
  split
  · next hem => exact ⟨⟨fun _ => hem, fun _ => rfl⟩, nofun⟩
  · next hem => exact ⟨⟨nofun, fun h => absurd h hem⟩, fun _ h => (Option.some.inj h).symm⟩

theorem invalidSubset_some {k : Nat} {c shape e : Chm} (h : invalidSubsetF k c shape = .ok (some e)) :
    filterSelF k c (mkCompl (shapeSelection shape)) = .ok e := by
  obtain ⟨e', he, _, hs⟩ := invalidSubset_ok h
  exact hs e rfl ▸ he

/-- `invalid_subset` returns `None` iff every static address of the map is one the shape has
    (static fragment: no `Switch`/`Indexed`/`Or` node in the constraint map). -/
theorem C33_none_iff_partial (k : Nat) (c shape : Chm) (r : Option Chm)
    (hso : staticOnly c = true) (hwf : wf c = true) (h : invalidSubsetF k c shape = .ok r) :
    r = Option.none ↔ ∀ q ∈ addrs c, mem (shapeSelection shape) q = true := by
  obtain ⟨e, he, hnone, _⟩ := invalidSubset_ok h
  -- `None` iff the filtered map is empty, iff it has no address, iff no address of `c` is
  -- outside the shape
  rw [hnone, staticIsEmpty_iff_addrs (filterSel_spec k c _ e ⟨hso, hwf⟩ he).1, List.eq_nil_iff_forall_not_mem]
  refine forall_congr' fun q => ?_
  rw [filterSel_addrs ⟨hso, hwf⟩ he, C18_mem_compl, not_and, Bool.not_eq_true', Bool.not_eq_false]

/-- Otherwise the returned map denotes exactly the entries at addresses the shape lacks. -/
theorem C33_some_denote_partial (k : Nat) (c shape e : Chm)
    (hso : staticOnly c = true) (hwf : wf c = true) (h : invalidSubsetF k c shape = .ok (some e)) (p : Path) :
    denote e p = if mem (shapeSelection shape) (statics p) = true then Option.none else denote c p := by
  rw [denote, (filterSel_spec k c _ e ⟨hso, hwf⟩ (invalidSubset_some h)).2, C18_mem_compl]
  cases mem (shapeSelection shape) (statics p) <;> rfl

/-- Addresses of the returned map: exactly the untraceable ones. -/
theorem C33_some_addrs_partial (k : Nat) (c shape e : Chm)
    (hso : staticOnly c = true) (hwf : wf c = true) (h : invalidSubsetF k c shape = .ok (some e)) (q : List String) :
    q ∈ addrs e ↔ q ∈ addrs c ∧ mem (shapeSelection shape) q = false := by
  rw [filterSel_addrs ⟨hso, hwf⟩ (invalidSubset_some h), C18_mem_compl, Bool.not_eq_true']

/-! Non-vacuity: a nested map with one traceable and one untraceable address. -/
def exShape : Chm := stat [("x", choice (.plain (.int 0))), ("y", stat [("a", choice (.plain (.int 0)))])]
def exChm : Chm := stat [("x", choice (.plain (.int 1))), ("y", stat [("a", choice (.plain (.int 2))), ("c", choice (.plain (.int 3)))])]
example : staticOnly exChm = true ∧ wf exChm = true ∧ staticOnly exShape = true := by decide +kernel
example : (match invalidSubsetF 10 exChm exShape with
    | .ok (some e) => denote e [.s "y", .s "c"] == some ⟨true, .int 3⟩ && denote e [.s "x"] == Option.none
    | _ => false) = true := by decide +kernel
example : (match invalidSubsetF 10 exShape exShape with | .ok Option.none => true | _ => false) = true := by decide +kernel

/-- Witness for the refutation: the choices of a switch trace, `switch(idx=1, [{x}, {y}])`, checked
    against a shape that has both `x` and `y`. -/
def swChm : Chm := switch 1 [stat [("x", choice (.masked false (.int 5)))], stat [("y", choice (.masked true (.int 6)))]]
def swShape : Chm := stat [("x", choice (.plain (.int 0))), ("y", choice (.plain (.int 0)))]

/-- The full statement is false of the faithful model: every address of `swChm` is in the shape,
    yet `invalid_subset` does not return `None`. -/
theorem C33_refuted : ¬ C33_full := by
  intro h
  have he : invalidSubsetF 10 swChm swShape = .ok (some (switch 1 [stat [], stat []])) := rfl
  cases (h 10 swChm swShape _ (by decide +kernel) he).2 (by decide +kernel)

end GenjaxVerif.Chm
