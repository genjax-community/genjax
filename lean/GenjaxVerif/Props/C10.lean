import GenjaxVerif.Lemmas.GFIProject
import GenjaxVerif.Props.GFITest
/-!
# C10 — project splits the score along a selection

`project p t s` models `<Combinator>.project(key, trace, selection)` on a trace `t` of the
program `p`.  Selections are the terms of model A (C18), for which membership of the
complement is the negation of membership (`Sel.C18_mem_compl`).
-/
namespace GenjaxVerif.GFI
open GenjaxVerif

/-- `project(S) + project(~S) = score`, for every program whose combinators support project,
    every trace of the program's shape, every selection (through the simplifying `~`). -/
theorem C10_project_complement (p : Prog) (t : Trace) (s : Sel) (a b : Int)
    (hs : Shape p t) (hd : DistinctAddrs p)
    (ha : project p t s = .ok a) (hb : project p t (Sel.mkCompl s) = .ok b) : a + b = t.score :=
  project_split p t s (Sel.mkCompl s) a b hs hd (fun q => Sel.C18_mem_compl s q) ha hb

/-- More generally: two selections that are complementary *as sets of addresses* split the score. -/
theorem C10_project_split (p : Prog) (t : Trace) (s1 s2 : Sel) (a b : Int)
    (hs : Shape p t) (hd : DistinctAddrs p) (hc : ∀ q, Sel.mem s2 q = !Sel.mem s1 q)
    (ha : project p t s1 = .ok a) (hb : project p t s2 = .ok b) : a + b = t.score :=
  project_split p t s1 s2 a b hs hd hc ha hb

theorem C10_project_none (p : Prog) (t : Trace) (a : Int) (ha : project p t .none = .ok a) : a = 0 :=
  project_none p t .none a (fun q => Sel.C18_mem_none q) ha

/-- `project(all) = score`. -/
theorem C10_project_all (p : Prog) (t : Trace) (a b : Int) (hs : Shape p t) (hd : DistinctAddrs p)
    (ha : project p t .all = .ok a) (hb : project p t .none = .ok b) : a = t.score := by
  have h1 := project_split p t .all .none a b hs hd
    (fun q => by simp [Sel.C18_mem_all, Sel.C18_mem_none]) ha hb
  rw [← h1, C10_project_none p t b hb, Int.add_zero]

/-- At a primitive choice, project returns the choice's log-density iff the selection selects it. -/
theorem C10_project_leaf (d : Nat) (a : Val) (v lp : Int) (s : Sel) :
    project (.dist d) (.dist d a v lp) s = .ok (if Sel.mem s [] then lp else 0) := rfl

/-- The mask combinator does not support project (`raise NotImplementedError`). -/
theorem C10_mask_not_supported (p : Prog) (t : Trace) (s : Sel) : project (.mask p) t s = .error .notSupported := by
  simp [project]

/-- tests: hypotheses are satisfiable on a concrete trace, and the values are as expected -/
example : Shape Test.prog1 Test.trace1 ∧ DistinctAddrs Test.prog1 := by
  simp only [Test.prog1, Test.trace1, Shape, ShapeBody, DistinctAddrs, DistinctBody, List.mem_cons, List.not_mem_nil,
    List.cons.injEq, String.reduceEq, forall_eq_or_imp, forall_eq, or_false, or_self, and_self, and_true,
    not_false_eq_true]
example : project Test.prog1 Test.trace1 (Sel.atAddr [some "y"]) = .ok 26 := by decide +kernel
example : project Test.prog1 Test.trace1 (Sel.mkCompl (Sel.atAddr [some "y"])) = .ok 1 := by decide +kernel

end GenjaxVerif.GFI
