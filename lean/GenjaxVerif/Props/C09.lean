import GenjaxVerif.Lemmas.IR
/-!
# C09 — the incremental interpreter computes the same values, with sound change tags

Statements about `evalIncr` (`IncrementalInterpreter.eval_jaxpr_incremental`), for ALL
jaxprs (any equations, any nesting inside `params`, unbound variables, arity mismatches,
DropVars, literal and duplicated outvars), ALL primitive semantics `sem` (so `cond`,
`scan`, `while`, `pjit`, initial-style primitives are covered like any other primitive),
all constants, inputs and taggings.  The handler slot is `None` or any handler that
handles no primitive (`NoHandle`).  Proofs: induction on the equation list with an
environment invariant (`Lemmas/IR.lean`).
-/
namespace GenjaxVerif.IR

/-- Primal outputs of the incremental run (read through `Diff.tree_primal`) are exactly the
    result of ordinary evaluation — including which exception is raised, if any. -/
theorem C09_incr_primal (sem : Sem) (h : Option (Handler IVal)) (hno : NoHandle h) (j : Jaxpr)
    (consts xs : List Val) (tags : List Tag) (hlen : xs.length = tags.length) :
    (evalIncr sem h j consts xs tags).map (List.map IVal.primal) = evalPlain sem j consts xs := by
  rw [evalIncr_none_of_noHandle sem h hno]
  have hs := evalIncr_sim_stateful sem Handler.noop (fun _ => rfl) j consts xs tags hlen
  rw [evalStateful_eq_plain sem _ (fun _ => rfl)] at hs
  exact ExRel.map_eq (fun _ _ hdv => All₂.map_eq (fun _ _ hd => hd) hdv) hs

/-- Error branch: a tangent list of the wrong length is rejected (`tree_map` / `safe_map`). -/
theorem C09_incr_tag_mismatch (sem : Sem) (h : Option (Handler IVal)) (j : Jaxpr)
    (consts xs : List Val) (tags : List Tag) (hlen : xs.length ≠ tags.length) :
    evalIncr sem h j consts xs tags = .error .arity := by
  rw [evalIncr, treeDiff_arity hlen]
  -- if writing the constants fails first, it is with `arity` too
  cases hw : Env.writeMany ([] : Env IVal) (j.constvars.map .var) (consts.map fun c => IVal.diff c .noChange) with
  | error x => rw [Env.writeMany_error hw]; rfl
  | ok e => rfl

/-- Noninterference.  Two runs on inputs that agree wherever the tag is `NoChange`: if both
    succeed, the outputs have the same representation and the same tags, and every output
    tagged `NoChange` (or left raw) has the same value in both runs.  (That both runs
    succeed is the honest form of "the primitives' result arity does not depend on the
    changed values": arity is fixed by each equation's binder list, and a run with a
    different arity fails.) -/
theorem C09_noninterference (sem : Sem) (h : Option (Handler IVal)) (hno : NoHandle h) (j : Jaxpr)
    (consts xs ys : List Val) (tags : List Tag) (hag : AgreeOn tags xs ys) (o1 o2 : List IVal)
    (h1 : evalIncr sem h j consts xs tags = .ok o1) (h2 : evalIncr sem h j consts ys tags = .ok o2) :
    All₂ IVal.sim o1 o2 := by
  rw [evalIncr_none_of_noHandle sem h hno] at h1 h2
  exact All₂.mono (fun _ _ hab => hab.1) (evalIncr_sim sem j consts xs ys tags hag o1 o2 h1 h2)

/-- The same, read output by output: equal tags everywhere, equal values at `NoChange`. -/
theorem C09_noninterference_pointwise (sem : Sem) (h : Option (Handler IVal)) (hno : NoHandle h) (j : Jaxpr)
    (consts xs ys : List Val) (tags : List Tag) (hag : AgreeOn tags xs ys) (o1 o2 : List IVal)
    (h1 : evalIncr sem h j consts xs tags = .ok o1) (h2 : evalIncr sem h j consts ys tags = .ok o2) :
    o1.length = o2.length ∧ o1.map IVal.tangent = o2.map IVal.tangent ∧
    ∀ (i : Nat) (a b : IVal), o1[i]? = some a → o2[i]? = some b → a.tangent = .noChange → a.primal = b.primal := by
  have hs := C09_noninterference sem h hno j consts xs ys tags hag o1 o2 h1 h2
  refine ⟨hs.length_eq, ?_, ?_⟩
  · exact All₂.eq_of_eq (hs.map fun _ _ hab => IVal.sim_tangent hab)
  · intro i a b ha hb ht
    have := hs.get? i
    rw [ha, hb] at this
    exact IVal.sim_primal this ht

/-- Tags do not depend on values at all: they are determined by the input tags. -/
theorem C09_tags_value_independent (sem : Sem) (h : Option (Handler IVal)) (hno : NoHandle h) (j : Jaxpr)
    (consts xs ys : List Val) (tags : List Tag) (hag : AgreeOn tags xs ys) (o1 o2 : List IVal)
    (h1 : evalIncr sem h j consts xs tags = .ok o1) (h2 : evalIncr sem h j consts ys tags = .ok o2) :
    o1.map IVal.tangent = o2.map IVal.tangent :=
  (C09_noninterference_pointwise sem h hno j consts xs ys tags hag o1 o2 h1 h2).2.1

/-- All inputs `NoChange` ⇒ all outputs `NoChange` (constvars and literals count as `NoChange`):
    the run compared with itself. -/
theorem C09_tags_monotone (sem : Sem) (h : Option (Handler IVal)) (hno : NoHandle h) (j : Jaxpr)
    (consts xs : List Val) (tags : List Tag) (hall : ∀ t ∈ tags, t = Tag.noChange) (o : List IVal)
    (h1 : evalIncr sem h j consts xs tags = .ok o) : ∀ d ∈ o, d.tangent = .noChange := by
  have hlen : xs.length = tags.length :=
    Decidable.by_contra fun hne => nomatch (C09_incr_tag_mismatch sem h j consts xs tags hne).symm.trans h1
  rw [evalIncr_none_of_noHandle sem h hno] at h1
  exact All₂.forall_left (fun _ _ hab => hab.2 hall) (evalIncr_sim sem j consts xs xs tags (AgreeOn.refl hlen) o o h1 h1)

/-- A handler that handles nothing is the same as no handler. -/
theorem C09_nohandle_eq_none (sem : Sem) (h : Option (Handler IVal)) (hno : NoHandle h) (j : Jaxpr)
    (consts xs : List Val) (tags : List Tag) :
    evalIncr sem h j consts xs tags = evalIncr sem none j consts xs tags :=
  evalIncr_none_of_noHandle sem h hno j consts xs tags

/-- The propagation rule itself: outputs are `NoChange` iff every input tangent is. -/
theorem C09_default_rule (sem : Sem) (p : String) (ps : Params) (ds : List IVal) (out : PrimOut Val)
    (hs : sem p ps (ds.map IVal.primal) = .ok out) :
    defaultRule sem p ps ds =
      .ok (out.map fun v => IVal.diff v (if ds.all (fun d => d.tangent = .noChange) then .noChange else .unknownChange)) := by
  rw [defaultRule, hs]; rfl

/-! ## Non-vacuity: a concrete program exercising constvars, a DropVar, a literal operand, a
    literal outvar, a duplicated outvar and a multi-result primitive. -/

private def sc (i : Int) : Val := ⟨.i32, [], [i]⟩

private def toySem : Sem := fun p _ vs =>
  match p, vs with
  | "add", [a, b] => .ok (.one (sc (a.data.headD 0 + b.data.headD 0)))
  | "dup", [a] => .ok (.many [a, a])
  | _, _ => .error (.prim "unknown")

private def prog : Jaxpr := .mk [9] [0, 1]
  [ .mk "add" false [] [.var 0, .var 9] [.var 2],
    .mk "dup" true [] [.var 1] [.var 3, .drop],
    .mk "add" false [] [.var 2, .lit (sc 0)] [.var 4] ]
  [.var 4, .var 3, .lit (sc 7), .var 2, .var 2]

example : evalIncr toySem none prog [sc 5] [sc 1, sc 2] [.noChange, .unknownChange]
    = .ok [.diff (sc 6) .noChange, .diff (sc 2) .unknownChange, .raw (sc 7), .diff (sc 6) .noChange,
           .diff (sc 6) .noChange] := by decide +kernel
example : evalIncr toySem none prog [sc 5] [sc 1, sc 40] [.noChange, .unknownChange]
    = .ok [.diff (sc 6) .noChange, .diff (sc 40) .unknownChange, .raw (sc 7), .diff (sc 6) .noChange,
           .diff (sc 6) .noChange] := by decide +kernel
example : AgreeOn [.noChange, .unknownChange] [sc 1, sc 2] [sc 1, sc 40] := ⟨fun _ => rfl, nofun, trivial⟩
example : evalPlain toySem prog [sc 5] [sc 1, sc 2] = .ok [sc 6, sc 2, sc 7, sc 6, sc 6] := by decide +kernel
example : NoHandle (some (Handler.noop : Handler IVal)) := fun h' hh p => by cases hh; rfl
example : ∀ t ∈ [Tag.noChange, Tag.noChange], t = Tag.noChange := by simp
example : evalIncr toySem none prog [sc 5] [sc 1, sc 2] [.noChange, .noChange]
    = .ok [.diff (sc 6) .noChange, .diff (sc 2) .noChange, .raw (sc 7), .diff (sc 6) .noChange,
           .diff (sc 6) .noChange] := by decide +kernel
/-- error cases are real: unbound variable, arity mismatch -/
example : evalIncr toySem none (.mk [] [0] [] [.var 3]) [] [sc 1] [.noChange] = .error (.unbound 3) := by decide +kernel
example : evalIncr toySem none prog [sc 5] [sc 1, sc 2] [.noChange] = .error .arity := by decide +kernel

end GenjaxVerif.IR
