import GenjaxVerif.Lemmas.Adev
/-!
# C29 — ADEV estimators are correct derivative estimators   (PARTIAL)

The model is `Model/Adev.lean`.  Everything is over ℚ, for all parameter
values, all input tangents and arbitrary continuations (Lean functions), or — for the
program-level theorems — all programs of the grammar `Prog`, all environments, keys, noise
tables and continuations.

What Lean carries: the algebra of the estimators (primal = value, enumeration = exact
expectation with its product-rule derivative, REINFORCE / baseline / MVD unbiased over a finite
outcome space, reparameterisation = chain rule through `x = μ + σ ε`, `add_cost` additive,
tangent linear in the input tangent so that `grad` = `jvp` at tangent 1).
Outside: continuous expectations (normal_reinforce / reparam unbiasedness in ε), the
identification of the dual-number tangent of a *continuation* with its analytic derivative
(taken as the hypotheses `k` is a dual lifting), `jax.grad`'s transposition machinery, float32.

`C29_full` (no exported primitive raises), `C29_primal_prog_full` (primal = value for programs with
sites inside `cond` branches) and `C29_keys_full` (distinct sites draw from distinct keys) are FALSE
of the code as written; see `C29_refuted`, `C29_primal_prog_refuted`, `C29_keys_refuted`.
-/
namespace GenjaxVerif.Adev

/-- `normal_reparam`: the dual handed to the continuation is `⟨μ + σ ε, μ' + σ' ε⟩`. -/
theorem C29_reparam_sample (mu sigma : Dual) (eps : Rat) :
    normalReparamSample mu sigma eps = ⟨mu.p + sigma.p * eps, mu.t + sigma.t * eps⟩ :=
  Dual.ext' rfl (show mu.t + (sigma.t * eps + sigma.p * 0) = _ by rw [Rat.mul_zero, Rat.add_zero])

/-- Estimator level: the primal of every estimator's output is the continuation applied to the
    sampled value (enumeration: the exact expectation of the continuation's primal). -/
theorem C29_primal (p b mu sigma w : Dual) (x : Bool) (eps xr : Rat)
    (k : Bool → Dual) (kr : Dual → Dual) :
    (flipEnumJvp p k).p = expect (bern p.p) (fun x => (k x).p) ∧
    (flipReinforceJvp p x k).p = (k x).p ∧
    (flipMvdJvpIntended p x k).p = (k x).p ∧
    (baselineJvp b (flipReinforceJvp p x) k).p = (k x).p ∧
    (normalReparamJvp mu sigma eps kr).p = (kr ⟨mu.p + sigma.p * eps, mu.t + sigma.t * eps⟩).p ∧
    (normalReinforceJvp mu sigma xr kr).p = (kr (Dual.const xr)).p ∧
    (addCostJvp w (k x)).p = w.p + (k x).p := by
  refine ⟨flipEnumJvp_p p k, rfl, rfl, Rat.sub_add_cancel, ?_, rfl, rfl⟩
  rw [normalReparamJvp, C29_reparam_sample]

/-- Full statement, program level: for EVERY program, noise table, parameter value and input
    tangent, the primal of `Expectation.jvp_estimate` is the program's value for that noise. -/
def C29_primal_prog_full : Prop :=
  ∀ (ln : Rat → Option Rat) (nz : Noise) (prog : Prog) (th : Dual),
    (jvpEstimate ln nz prog th).map (·.p) = progValue ln nz prog th.p

/-- PARTIAL (decidable hypothesis `prog.branchesSiteFree`: no sampling site / `add_cost` inside a
    `cond` branch): the primal is the program's value (or the same error), for every such program,
    noise table, θ and input tangent.  Missing: programs with sites inside `cond` branches, where the
    code applies the rest of the program to the branch's *averaged / cost-shifted* result
    (`k(E[r])`, `k(w + r)`) instead of `E[k(r)]`, `w + k(r)` — see `C29_primal_prog_refuted`. -/
theorem C29_primal_prog_partial (ln : Rat → Option Rat) (nz : Noise) (prog : Prog) (th : Dual)
    (h : prog.branchesSiteFree = true) :
    (jvpEstimate ln nz prog th).map (·.p) = progValue ln nz prog th.p :=
  evalK_proj ln nz prog h ⟨th, [], []⟩ [] pure pure (fun _ => rfl)

example : (Prog.addCost (.mul .th .th) (.sample .flipReinforce [.th]
    (.cond 0 (.ret (.c 1)) (.ret .th) (.sample .normalReparam [.rv 0, .c 1] (.ret (.mul (.rv 1) (.rv 1))))))).branchesSiteFree
    = true := rfl

/-- `b = flip_enum(1/2); r = cond(b, 1, (add_cost(1); 1)); return r*r`: the value is
    `1/2·1 + 1/2·(1 + 1) = 3/2`, the code computes `1/2·1 + 1/2·(1 + 1)² = 5/2`. -/
def condWitness : Prog :=
  .sample .flipEnum [.c (1/2)]
    (.cond 0 (.ret (.c 1)) (.addCost (.c 1) (.ret (.c 1))) (.ret (.mul (.rv 0) (.rv 0))))

theorem C29_primal_prog_refuted : ¬ C29_primal_prog_full := by
  intro h
  have := h (fun _ => none) ⟨fun _ => none, fun _ => none⟩ condWitness ⟨0, 0⟩
  revert this
  decide +kernel

/-- `flip_enum`: primal = `p·k(T) + (1−p)·k(F)`; tangent = the product-rule derivative of that
    expression, where `p.t`, `(k ·).t` are the derivatives of `p`, `k ·`. -/
theorem C29_flip_enum_exact (p : Dual) (k : Bool → Dual) :
    (flipEnumJvp p k).p = p.p * (k true).p + (1 - p.p) * (k false).p ∧
    (flipEnumJvp p k).t =
      p.t * ((k true).p - (k false).p) + expect (bern p.p) (fun x => (k x).t) :=
  ⟨(flipEnumJvp_p p k).trans (expect_bern _ _), flipEnumJvp_t p k⟩

/-- Enumeration over any finite support with dual weights: primal `Σ wᵢ·k(i)`, tangent
    `Σ wᵢ'·k(i) + Σ wᵢ·k(i)'`. -/
theorem C29_categorical_enum_exact (ws : List Dual) (k : Nat → Dual) :
    (categoricalEnumJvp ws k).p
      = ((List.range ws.length).map (fun i => (ws.getD i (Dual.const 0)).p * (k i).p)).sum ∧
    (categoricalEnumJvp ws k).t
      = ((List.range ws.length).map (fun i => (ws.getD i (Dual.const 0)).t * (k i).p)).sum
        + ((List.range ws.length).map (fun i => (ws.getD i (Dual.const 0)).p * (k i).t)).sum := by
  unfold categoricalEnumJvp
  generalize List.range ws.length = is
  induction is with
  | nil => exact ⟨rfl, (Rat.add_zero 0).symm⟩
  | cons i is ih =>
    obtain ⟨ihp, iht⟩ := ih
    constructor
    · simp only [List.foldr_cons, Dual.add_p, Dual.mul_p, List.map_cons, List.sum_cons, ihp]
    · simp only [List.foldr_cons, Dual.add_t, Dual.mul_t, List.map_cons, List.sum_cons, iht]; ring

/-- Two-point case: `categoricalEnumJvp [p, 1−p]` is `flipEnumJvp p`. -/
theorem C29_categorical_two (p : Dual) (k : Bool → Dual) :
    categoricalEnumJvp [p, Dual.const 1 - p] (fun i => k (i == 0)) = flipEnumJvp p k := by
  show p * k true + ((Dual.const 1 - p) * k false + Dual.const 0) = _
  rw [show ∀ d : Dual, d + Dual.const 0 = d from fun d => Dual.ext' (Rat.add_zero _) (Rat.add_zero _)]
  rfl

/-- `flip_reinforce`: the expectation over `x ~ Bernoulli(p)` of the tangent the estimator returns
    equals the exact derivative (the tangent `flip_enum` computes), for every continuation and
    every `p' = p.t`. -/
theorem C29_reinforce_unbiased (p : Dual) (k : Bool → Dual) (h0 : 0 < p.p) (h1 : p.p < 1) :
    expect (bern p.p) (fun x => (flipReinforceJvp p x k).t) = (flipEnumJvp p k).t := by
  -- linearity, the score-function identity, the product rule
  show expect (bern p.p) (fun x => (k x).t + (k x).p * flipLpTangent x p) = _
  rw [expect_add, expect_bern_score p _ h0 h1, flipEnumJvp_t, Rat.add_comm]

example : (0 : Rat) < (⟨3/8, 1⟩ : Dual).p ∧ (⟨3/8, 1⟩ : Dual).p < 1 := by decide +kernel

/-- A baseline around an enumeration primitive changes nothing. -/
theorem C29_baseline_enum (p b : Dual) (k : Bool → Dual) :
    baselineJvp b (flipEnumJvp p) k = flipEnumJvp p k := by
  refine Dual.ext' ?_ ?_ <;>
    simp only [baselineJvp, flipEnumJvp, Dual.add_p, Dual.sub_p, Dual.mul_p, Dual.const_p,
      Dual.add_t, Dual.sub_t, Dual.mul_t, Dual.const_t] <;> ring

theorem baseline_unbiased (p b : Dual) (est : Bool → (Bool → Dual) → Dual)
    (h : ∀ k, expect (bern p.p) (fun x => (est x k).t) = (flipEnumJvp p k).t) (k : Bool → Dual) :
    expect (bern p.p) (fun x => (baselineJvp b (est x) k).t) = (flipEnumJvp p k).t := by
  -- shift the continuation, apply unbiasedness of `est`, let enumeration absorb the shift
  rw [← C29_baseline_enum p b k]
  show expect (bern p.p) (fun x => (est x fun y => k y - b).t + b.t) = (flipEnumJvp p fun y => k y - b).t + b.t
  rw [expect_add, h, expect_bern_const]

/-- `baseline(flip_reinforce)(b, p)`: subtracting any baseline `b` (even one that depends on θ)
    leaves the primal equal to `k x` and the expected tangent equal to the exact derivative. -/
theorem C29_baseline_unbiased (p b : Dual) (k : Bool → Dual) (h0 : 0 < p.p) (h1 : p.p < 1) :
    (∀ x, (baselineJvp b (flipReinforceJvp p x) k).p = (k x).p) ∧
    expect (bern p.p) (fun x => (baselineJvp b (flipReinforceJvp p x) k).t) = (flipEnumJvp p k).t :=
  ⟨fun _ => Rat.sub_add_cancel,
   baseline_unbiased p b (flipReinforceJvp p) (fun k => C29_reinforce_unbiased p k h0 h1) k⟩

/-- The measure-valued estimator `flip_mvd` is *meant* to be (using the tangent of `p`) is
    unbiased.  PARTIAL: the method as written reads the primal of `p` where the tangent is needed
    (`C29_mvd_as_written_biased`) and in fact raises for every input (`C29_raises`). -/
theorem C29_mvd_unbiased_partial (p : Dual) (k : Bool → Dual) :
    expect (bern p.p) (fun x => (flipMvdJvpIntended p x k).t) = (flipEnumJvp p k).t := by
  rw [flipEnumJvp_t, expect_bern, expect_bern]
  simp only [flipMvdJvpIntended, Bool.not_true, Bool.not_false, if_true, Bool.false_eq_true, if_false]
  ring

theorem C29_mvd_as_written_biased :
    ∃ (p : Dual) (k : Bool → Dual), 0 < p.p ∧ p.p < 1 ∧
      expect (bern p.p) (fun x => (flipMvdJvpAsWritten p x k).t) ≠ (flipEnumJvp p k).t :=
  ⟨⟨1/2, 1⟩, fun x => if x then ⟨1, 0⟩ else ⟨0, 0⟩, by decide +kernel, by decide +kernel, by decide +kernel⟩

/-- `normal_reparam`: the value handed to the continuation is `x = μ + σ ε` with tangent
    `μ' + σ' ε`; hence for any continuation that is a dual lifting of `f` with derivative `f'` in `x`
    and partial derivative `g` in θ (`k ⟨x, t⟩ = ⟨f x, f' x · t + g x⟩` — true of every polynomial
    continuation, see the `example`), the output is
    `⟨f (μ + σ ε), f' (μ + σ ε) · (μ' + σ' ε) + g (μ + σ ε)⟩`. -/
theorem C29_reparam_pathwise (mu sigma : Dual) (eps : Rat) (k : Dual → Dual) (f f' g : Rat → Rat)
    (hk : ∀ d, k d = ⟨f d.p, f' d.p * d.t + g d.p⟩) :
    normalReparamJvp mu sigma eps k =
      ⟨f (mu.p + sigma.p * eps),
       f' (mu.p + sigma.p * eps) * (mu.t + sigma.t * eps) + g (mu.p + sigma.p * eps)⟩ := by
  rw [normalReparamJvp, C29_reparam_sample, hk]

/-- Non-vacuity: the dual evaluation of the polynomial `x ↦ x·x + θ·x` (θ = ⟨a, 1⟩) is a lifting. -/
example (a : Rat) : ∀ d : Dual, (d * d + (⟨a, 1⟩ : Dual) * d)
    = ⟨(fun x => x * x + a * x) d.p, (fun x => 2 * x + a) d.p * d.t + (fun x => x) d.p⟩ := by
  intro d
  exact Dual.ext' rfl (by simp only [Dual.add_t, Dual.mul_t]; ring)

/-- `add_cost(w)` adds `w` (primal and tangent) to whatever the rest of the program yields. -/
theorem C29_add_cost_linear (ln : Rat → Option Rat) (nz : Noise) (e : Expr) (k : Prog)
    (env : Env) (key : Key) (K : Dual → Except Err Dual) :
    evalK ln nz (.addCost e k) env key K
      = (do let w ← evalExpr ln env e; let l ← evalK ln nz k env key K; pure (w + l)) :=
  rfl

/-- Under an enumeration the cost is averaged like everything else:
    `E[w + k] = w + E[k]` as duals. -/
theorem C29_add_cost_enum (p w : Dual) (k : Bool → Dual) :
    flipEnumJvp p (fun x => addCostJvp w (k x)) = addCostJvp w (flipEnumJvp p k) := by
  refine Dual.ext' ?_ ?_ <;>
    simp only [flipEnumJvp, addCostJvp, Dual.add_p, Dual.sub_p, Dual.mul_p, Dual.const_p,
      Dual.add_t, Dual.sub_t, Dual.mul_t, Dual.const_t] <;> ring

/-- The output tangent is linear in the input tangent, the primal does not depend on it, for EVERY
    program: `jvp_estimate(key, Dual(θ, τ)) = ⟨P, τ·T⟩` where `⟨P, T⟩ = jvp_estimate(key, Dual(θ, 1))`. -/
theorem C29_tangent_linear (ln : Rat → Option Rat) (nz : Noise) (prog : Prog) (th τ : Rat) :
    jvpEstimate ln nz prog ⟨th, τ⟩ = (jvpEstimate ln nz prog ⟨th, 1⟩).map (scale τ) := by
  have h := evalK_scale ln nz τ prog ⟨⟨th, 1⟩, [], []⟩ [] pure pure fun _ => rfl
  rw [show Env.scale τ ⟨⟨th, 1⟩, [], []⟩ = ⟨⟨th, τ⟩, [], []⟩ by rw [Env.scale, scale, Rat.mul_one]; rfl] at h
  exact h.symm

/-- `grad_estimate` (modelled as the coefficient of the input tangent, which is what transposing
    the linear JVP rule yields) times `τ` is the tangent `jvp_estimate` returns for input tangent `τ`.
    Outside the model: `jax.grad` / `custom_jvp` linearisation and transposition. -/
theorem C29_grad_eq_jvp (ln : Rat → Option Rat) (nz : Noise) (prog : Prog) (th τ : Rat) :
    (jvpEstimate ln nz prog ⟨th, τ⟩).map (·.t) = (gradEstimate ln nz prog th).map (τ * ·) := by
  rw [C29_tangent_linear, gradEstimate]
  cases jvpEstimate ln nz prog ⟨th, 1⟩ <;> rfl

/-- `flip_mvd`, `flip_enum_parallel`, `categorical_enum_parallel`, `uniform` raise whatever their
    arguments, key and continuation; so does `Expectation.estimate`. -/
theorem C29_raises (nz : Noise) (ds : List Dual) (key : Key) (kv : Val → Key → Except Err Dual)
    (prog : Prog) (th : Rat) :
    primJvp nz .flipMvd ds key kv = .error (.raises "flip_mvd") ∧
    primJvp nz .flipEnumParallel ds key kv = .error (.raises "flip_enum_parallel") ∧
    primJvp nz .categoricalEnumParallel ds key kv = .error (.raises "categorical_enum_parallel") ∧
    primJvp nz .uniform ds key kv = .error (.raises "uniform") ∧
    estimateAsWritten prog th = .error (.raises "Expectation.estimate") :=
  ⟨rfl, rfl, rfl, rfl, rfl⟩

/-- Full statement: no exported primitive's estimator raises (given a continuation that does not). -/
def C29_full : Prop :=
  ∀ (nz : Noise) (prim : Prim) (ds : List Dual) (key : Key) (kv : Val → Key → Except Err Dual),
    (∀ v k c, kv v k ≠ .error (.raises c)) → ∀ c, primJvp nz prim ds key kv ≠ .error (.raises c)

theorem C29_refuted : ¬ C29_full := by
  intro h
  exact h ⟨fun _ => none, fun _ => none⟩ .flipMvd [] [] (fun _ _ => .ok ⟨0, 0⟩)
    (fun _ _ _ => by simp) "flip_mvd" rfl

def Prim.works : Prim → Bool
  | .flipEnum | .flipReinforce | .normalReparam | .normalReinforce => true
  | .baseline inner => inner.works
  | _ => false

/-- PARTIAL (hypothesis `prim.works`, decidable): the working primitives never raise. -/
theorem C29_no_raise_partial (nz : Noise) (prim : Prim) (hw : prim.works = true) :
    ∀ (ds : List Dual) (key : Key) (kv : Val → Key → Except Err Dual),
    (∀ v k c, kv v k ≠ .error (.raises c)) → ∀ c, primJvp nz prim ds key kv ≠ .error (.raises c) := by
  intro ds key kv hk
  induction prim generalizing ds kv with
  | baseline inner ih =>
    cases ds with
    | nil => exact NoRaise.arity
    | cons b args =>
      exact NoRaise.bind (ih hw args _ fun v k' => NoRaise.bind (hk v k') fun _ => .pure _) fun _ => .pure _
  | flipEnum =>
    cases ds using argCases₁ with
    | nil => exact NoRaise.arity
    | one p => exact NoRaise.bind (hk _ _) fun _ => NoRaise.bind (hk _ _) fun _ => .pure _
    | more _ _ _ => exact NoRaise.arity
  | flipReinforce =>
    cases ds using argCases₁ with
    | nil => exact NoRaise.arity
    | one p => exact NoRaise.bind (.noise _ _ _) fun _ => NoRaise.bind (hk _ _) fun _ => .pure _
    | more _ _ _ => exact NoRaise.arity
  | normalReparam =>
    cases ds using argCases₂ with
    | nil => exact NoRaise.arity
    | one _ => exact NoRaise.arity
    | two mu sigma => exact NoRaise.bind (.noise _ _ _) fun _ => hk _ _
    | more _ _ _ _ => exact NoRaise.arity
  | normalReinforce =>
    cases ds using argCases₂ with
    | nil => exact NoRaise.arity
    | one _ => exact NoRaise.arity
    | two mu sigma => exact NoRaise.bind (.noise _ _ _) fun _ => NoRaise.bind (hk _ _) fun _ => .pure _
    | more _ _ _ _ => exact NoRaise.arity
  | flipMvd => cases hw
  | flipEnumParallel => cases hw
  | categoricalEnumParallel => cases hw
  | uniform => cases hw

example : (Prim.baseline .flipReinforce).works = true := rfl

/-- Full statement: along an execution, no two sampling sites read the same noise key. -/
def C29_keys_full : Prop := ∀ (prog : Prog) (key : Key), (siteKeys prog key).Nodup

/-- Refuted twice by the code as written:
    (1) a tail-call primitive hands its *unsplit* key to the continuation, so two consecutive
        `normal_reparam` sites draw the same ε;
    (2) the continuation after a `cond` closes over the key at the `cond`, so a site inside a
        branch and a site after the `cond` draw from the same key. -/
theorem C29_keys_refuted : ¬ C29_keys_full := by
  intro h
  have := h (.sample .normalReparam [.c 0, .c 1] (.sample .normalReparam [.c 0, .c 1] (.ret (.rv 0)))) []
  revert this
  decide

theorem C29_keys_refuted_cond :
    ¬ (siteKeys (.cond 0 (.sample .flipReinforce [.th] (.ret (.c 0))) (.ret (.c 0))
        (.sample .flipReinforce [.th] (.ret (.c 0)))) []).Nodup := by
  decide

/-- PARTIAL (decidable hypothesis `prog.keySafe`: straight-line programs over `flip_enum`,
    `flip_reinforce`, `normal_reinforce` and baselines of them): no two sampling sites read the same
    noise key, from any starting key.  Missing: tail-call primitives and `cond` (refuted above). -/
theorem C29_keys_distinct_partial (prog : Prog) (h : prog.keySafe = true) :
    ∀ key, (siteKeys prog key).Nodup :=
  fun key => (siteKeys_prefixFree prog h key).imp fun hab e => hab.1 (by rw [e]; exact List.prefix_refl _)

example : (Prog.sample .flipReinforce [.th] (.addCost .th (.sample (.baseline .normalReinforce) [.c 1, .th, .c 1]
    (.sample .flipEnum [.th] (.ret (.rv 0)))))).keySafe = true := rfl

end GenjaxVerif.Adev
