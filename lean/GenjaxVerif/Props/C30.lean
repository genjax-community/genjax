import GenjaxVerif.Props.C29
/-!
# C30 — VI objective gradient estimators are unbiased for their objectives   (PARTIAL)

The `_loss` programs `vi.ELBO / PWake` stage (`Model/Adev.lean`: `elboLoss`, `pwakeLoss`, built from
the particle-weight algebra of `Importance.run_smc` + `ChangeTarget.run_smc`) run through the ADEV
interpreter of C29.  Over ℚ with `log` as an uninterpreted symbol whose forward-mode rule is
`d log q = q'/q`.

* `C30_elbo_loss`: the staged loss is `−(log p(x, obs) − w_q)` on the guide's sample, where `w_q` is the
  weight `Marginal.random_weighted` returns: `log q(x)` as documented and since the C25 repair
  (`GuideWeight.selected`), `0` on the originally pinned tree (`GuideWeight.complement`, the C25 defect).
* enumerable guide (`flip_enum`): the estimate is EXACTLY `(−ELBO, d/dθ(−ELBO))` — for `.selected`;
  for `.complement` it is the gradient of `−E_q[log p]` instead, and `C30_refuted` shows the two differ.
* REINFORCE guide (`flip_reinforce`): the expectation of the estimate over the guide's outcome is that
  gradient (from `C29_reinforce_unbiased`).
* reparameterised Gaussian guide: pathwise identity given ε, with the score term of `log q` vanishing.
* PWake: `−log p(x, obs)` on the posterior-approximation's sample; exact for an enumerable one.

Outside: IWELBO with N > 1 (`logsumexp`), QWake (checked on the implementation only),
continuous expectations over ε, the identification of `q'/q` with the analytic derivative of `ln q`.
-/
namespace GenjaxVerif.Adev

/-- Dual value of the ELBO `_loss` return expression: `−((A − A) + (A − w_q))`, i.e. `−(A − w_q)`,
    where `A` is the dual of `log p(x, obs)` and `w_q` the guide weight (`log q` or `0`). -/
theorem C30_elbo_loss (ln : Rat → Option Rat) (env : Env) (m : GuideWeight) (logp logq : Expr) (A Q : Dual)
    (hA : evalExpr ln env logp = .ok A) (hQ : evalExpr ln env logq = .ok Q) :
    evalExpr ln env (.neg (importanceWeightExpr m logp logq))
      = .ok (match m with
             | .selected => -(A - Q)
             | .complement => -A) := by
  cases m
  · simp only [importanceWeightExpr, guideWeightExpr, evalExpr, hA, bind_ok, pure, Except.pure,
      Dual.sub_self_add, Dual.sub_const_zero]
  · simp only [importanceWeightExpr, guideWeightExpr, evalExpr, hA, hQ, bind_ok, pure, Except.pure,
      Dual.sub_self_add]

/-- The ELBO `_loss` is one ADEV sampling site (the guide's) followed by that expression; with an
    enumerating guide the interpreter returns `flipEnumJvp p` of the two branch values. -/
theorem C30_elbo_prog_enum (ln : Rat → Option Rat) (nz : Noise) (m : GuideWeight) (pe logp logq : Expr) (th p a b : Dual)
    (hp : evalExpr ln ⟨th, [], []⟩ pe = .ok p)
    (ha : evalExpr ln ⟨th, [true], []⟩ (.neg (importanceWeightExpr m logp logq)) = .ok a)
    (hb : evalExpr ln ⟨th, [false], []⟩ (.neg (importanceWeightExpr m logp logq)) = .ok b) :
    jvpEstimate ln nz (elboLoss m .flipEnum [pe] logp logq) th
      = .ok (flipEnumJvp p (fun x => if x then a else b)) := by
  simp only [jvpEstimate, elboLoss, evalK, evalArgs, hp, bind_ok, pure, Except.pure, primJvp,
    Env.push, Env.pushB, List.nil_append, ha, hb]

/-- … and with a REINFORCE guide, `flipReinforceJvp p x` at the sampled outcome. -/
theorem C30_elbo_prog_reinforce (ln : Rat → Option Rat) (nz : Noise) (m : GuideWeight) (pe logp logq : Expr)
    (th p : Dual) (u : Rat) (k : Bool → Dual)
    (hp : evalExpr ln ⟨th, [], []⟩ pe = .ok p) (hu : nz.u [1] = some u)
    (hk : ∀ x, evalExpr ln ⟨th, [x], []⟩ (.neg (importanceWeightExpr m logp logq)) = .ok (k x)) :
    jvpEstimate ln nz (elboLoss m .flipReinforce [pe] logp logq) th
      = .ok (flipReinforceJvp p (decide (u < p.p)) k) := by
  simp only [jvpEstimate, elboLoss, evalK, evalArgs, hp, bind_ok, pure, Except.pure, primJvp,
    Env.push, Env.pushB, List.nil_append, hu, optE, hk]
  rfl

/-- `x ~ flip_enum(p)`, loss `−(A x − log q(x))` with `log q(T) = ⟨L1, p'/p⟩`, `log q(F) = ⟨L0, −p'/(1−p)⟩`:
    the estimate is exactly `⟨−ELBO, d/dθ(−ELBO)⟩` for every `p ∈ (0,1)`, `p'`, and every dual `A x`
    (model parameters may depend on θ too). -/
theorem C30_elbo_grad_enumerable (p : Dual) (A : Bool → Dual) (L1 L0 : Rat) (h0 : 0 < p.p) (h1 : p.p < 1) :
    flipEnumJvp p (fun x => -(A x - (if x then logDual p L1 else logDual (Dual.const 1 - p) L0)))
      = ⟨negElboFlip p.p (A true).p (A false).p L1 L0,
         negElboFlipGrad p.p p.t (A true).p (A false).p (A true).t (A false).t L1 L0⟩ := by
  refine Dual.ext' ?_ ?_
  · rw [flipEnumJvp_p, expect_bern]
    simp only [Dual.neg_p, Dual.sub_p, if_true, Bool.false_eq_true, if_false, logDual, negElboFlip]
    ring
  · -- product rule; the score terms `E_x[∂log q(x)]` cancel (`expect_bern_score` at `f = 1`)
    have e : ∀ x, (-(A x - (if x then logDual p L1 else logDual (Dual.const 1 - p) L0))).t
        = -(A x).t + 1 * flipLpTangent x p := fun x => by
      rw [Dual.neg_t, Dual.sub_t, logq_t]; ring
    simp only [flipEnumJvp_t, e]
    rw [expect_add, expect_bern_score p _ h0 h1, expect_bern]
    simp only [Dual.neg_p, Dual.sub_p, if_true, Bool.false_eq_true, if_false, logDual, negElboFlipGrad]
    ring

example : (0 : Rat) < (⟨3/8, 1⟩ : Dual).p ∧ (⟨3/8, 1⟩ : Dual).p < 1 := by decide +kernel

/-- With `GuideWeight.complement` (the originally pinned tree: the guide's log density is missing
    from the weight) the estimate is the gradient of `−E_q[log p(x, obs)]`. -/
theorem C30_elbo_grad_as_written (p : Dual) (A : Bool → Dual) :
    flipEnumJvp p (fun x => -(A x))
      = ⟨negExpLogp p.p (A true).p (A false).p,
         negExpLogpGrad p.p p.t (A true).p (A false).p (A true).t (A false).t⟩ := by
  refine Dual.ext' ?_ ?_
  · rw [flipEnumJvp_p, expect_bern]
    simp only [Dual.neg_p, negExpLogp]
    ring
  · rw [flipEnumJvp_t, expect_bern]
    simp only [Dual.neg_p, Dual.neg_t, negExpLogpGrad]
    ring

/-- Full statement for the `complement` weighting (the originally pinned tree): the ELBO estimate's
    tangent is the closed-form ELBO gradient. -/
def C30_full : Prop :=
  ∀ (p : Dual) (A : Bool → Dual) (L1 L0 : Rat), 0 < p.p → p.p < 1 →
    (flipEnumJvp p (fun x => -(A x))).t
      = negElboFlipGrad p.p p.t (A true).p (A false).p (A true).t (A false).t L1 L0

/-- Refuted: `p = 1/2`, `p' = 1`, `A ≡ 0`, `L1 = 1`, `L0 = 0`: as written `0`, ELBO gradient `1`. -/
theorem C30_refuted : ¬ C30_full := by
  intro h
  have := h ⟨1/2, 1⟩ (fun _ => ⟨0, 0⟩) 1 0 (by decide +kernel) (by decide +kernel)
  revert this
  decide +kernel

/-- `x ~ flip_reinforce(p)`: the expectation over the guide's outcome of the tangent the estimator
    returns is the closed-form ELBO gradient. -/
theorem C30_elbo_grad_reinforce_unbiased (p : Dual) (A : Bool → Dual) (L1 L0 : Rat) (h0 : 0 < p.p) (h1 : p.p < 1) :
    expect (bern p.p) (fun x => (flipReinforceJvp p x
        (fun x => -(A x - (if x then logDual p L1 else logDual (Dual.const 1 - p) L0)))).t)
      = negElboFlipGrad p.p p.t (A true).p (A false).p (A true).t (A false).t L1 L0 := by
  rw [C29_reinforce_unbiased p _ h0 h1, C30_elbo_grad_enumerable p A L1 L0 h0 h1]

/-- The same with any baseline. -/
theorem C30_elbo_grad_baseline_unbiased (p b : Dual) (A : Bool → Dual) (L1 L0 : Rat) (h0 : 0 < p.p) (h1 : p.p < 1) :
    expect (bern p.p) (fun x => (baselineJvp b (flipReinforceJvp p x)
        (fun x => -(A x - (if x then logDual p L1 else logDual (Dual.const 1 - p) L0)))).t)
      = negElboFlipGrad p.p p.t (A true).p (A false).p (A true).t (A false).t L1 L0 := by
  rw [(C29_baseline_unbiased p b _ h0 h1).2, C30_elbo_grad_enumerable p A L1 L0 h0 h1]

theorem C30_normal_logpdf_eval (ln : Rat → Option Rat) (env : Env) (c : Rat) (xe me se : Expr) (x m s : Dual) (l : Rat)
    (hx : evalExpr ln env xe = .ok x) (hm : evalExpr ln env me = .ok m) (hs : evalExpr ln env se = .ok s)
    (hl : ln s.p = some l) :
    evalExpr ln env (normalLogpdfExpr c xe me se) = .ok (normalLpDual c x m s l) := by
  simp only [normalLogpdfExpr, evalExpr, hx, hm, hs, hl, bind_ok, pure, Except.pure, optE]
  rfl

/-- A Gaussian model factor `log N(x; m, s)` with constant `m`, `s ≠ 0`, differentiated along the
    path: `−((x − m)/s²) · x'`. -/
theorem C30_reparam_logp_tangent (c m s l : Rat) (x : Dual) (hs : s ≠ 0) :
    (normalLpDual c x (Dual.const m) (Dual.const s) l).t = -((x.p - m) / (s * s)) * x.t := by
  rw [normalLpDual_t_const_scale, Dual.const_p, Dual.const_t, sub_zero]

/-- Along `x = μ + σ ε` the guide's own log density has tangent `−σ'/σ`: the score term vanishes
    pathwise (`(x − μ)/σ = ε` does not move). -/
theorem C30_reparam_logq_tangent (c : Rat) (mu sigma : Dual) (eps l : Rat) (hs : sigma.p ≠ 0) :
    (normalLpDual c (normalReparamSample mu sigma eps) mu sigma l).t = -(sigma.t / sigma.p) := by
  have hz : (((normalReparamSample mu sigma eps) - mu) / sigma).t = 0 := by
    -- `x − μ = σ ε` with tangent `σ' ε`: the quotient rule gives `σ' ε / σ − σ ε σ' / σ²`
    simp only [C29_reparam_sample, Dual.div_t, Dual.sub_p, Dual.sub_t]
    rw [add_sub_cancel_left, add_sub_cancel_left, mul_assoc, mul_div_mul_left _ _ hs, mul_comm eps, sub_self]
  rw [normalLpDual_t, hz, Rat.mul_zero, Rat.neg_zero, zero_sub]

/-- Conjugate pair `x ~ N(m0, s0)`, `obs ~ N(x, s1)` observed at `v`, guide `x ~ normal_reparam(μ, σ)`:
    the ELBO estimate `−(log p(x) + log p(v | x) − log q(x))` has, for the drawn ε, the pathwise
    tangent `((x − m0)/s0² + (x − v)/s1²)·(μ' + σ' ε) − σ'/σ` at `x = μ + σ ε`. -/
theorem C30_elbo_gaussian_pathwise (c m0 s0 v s1 l0 l1 lq eps : Rat) (mu sigma : Dual)
    (h0 : s0 ≠ 0) (h1 : s1 ≠ 0) (hs : sigma.p ≠ 0) :
    let x := normalReparamSample mu sigma eps
    (normalReparamJvp mu sigma eps (fun x =>
        -((normalLpDual c x (Dual.const m0) (Dual.const s0) l0
            + normalLpDual c (Dual.const v) x (Dual.const s1) l1)
          - normalLpDual c x mu sigma lq))).t
      = ((x.p - m0) / (s0 * s0) + (x.p - v) / (s1 * s1)) * (mu.t + sigma.t * eps) - sigma.t / sigma.p := by
  intro x
  -- `h0`, `h1` are not used: with a constant scale the tangent is a polynomial in `1/s`
  have hxt : x.t = mu.t + sigma.t * eps := congrArg Dual.t (C29_reparam_sample mu sigma eps)
  show -((normalLpDual c x (Dual.const m0) (Dual.const s0) l0).t
      + (normalLpDual c (Dual.const v) x (Dual.const s1) l1).t - (normalLpDual c x mu sigma lq).t) = _
  rw [normalLpDual_t_const_scale, normalLpDual_t_const_scale, C30_reparam_logq_tangent c mu sigma eps lq hs, ← hxt]
  simp only [Dual.const_p, Dual.const_t]
  ring

example : (2 : Rat) ≠ 0 ∧ (1/10 : Rat) ≠ 0 ∧ (⟨1/2, 1⟩ : Dual).p ≠ 0 := by
  decide +kernel

/-- `vi.PWake`'s `_loss` with an enumerable posterior approximation: the estimate is exactly
    `⟨−E_q[log p], d/dθ(−E_q[log p])⟩` (both the model's and the approximation's parameters may
    depend on θ). -/
theorem C30_pwake_prog_enum (ln : Rat → Option Rat) (nz : Noise) (pe logp : Expr) (th p : Dual) (A : Bool → Dual)
    (hp : evalExpr ln ⟨th, [], []⟩ pe = .ok p)
    (hA : ∀ x, evalExpr ln ⟨th, [x], []⟩ logp = .ok (A x)) :
    jvpEstimate ln nz (pwakeLoss .flipEnum [pe] logp) th
      = .ok ⟨negExpLogp p.p (A true).p (A false).p,
             negExpLogpGrad p.p p.t (A true).p (A false).p (A true).t (A false).t⟩ := by
  simp only [jvpEstimate, pwakeLoss, evalK, evalArgs, hp, bind_ok, pure, Except.pure, primJvp,
    Env.push, Env.pushB, List.nil_append, evalExpr, hA]
  congr 1
  have h : (fun x => if x = true then -A true else -A false) = fun x => -(A x) := by
    funext x; cases x <;> rfl
  rw [h]
  exact C30_elbo_grad_as_written p A

end GenjaxVerif.Adev
