import GenjaxVerif.Lemmas.Mask
/-!
# C20 — Staging helpers select, branch and combine flags correctly

Statements only (model functions live in `Model/Mask.lean`).  Quantification: ALL truth values
and staging modes of every flag, vectors of ANY length, ALL integer indices (negative and
out of range included), ANY non-empty choice / branch list, branch outputs of ANY type
(heterogeneous shapes are values of one tree type `β`).
-/
namespace GenjaxVerif.MaskModel

/-- Truth tables, whatever the modes of the operands. -/
theorem C20_flagop_tables (f g : Flag) :
    (Flag.and f g).val = (f.val && g.val) ∧ (Flag.or f g).val = (f.val || g.val) ∧
    (Flag.xor f g).val = (f.val ^^ g.val) ∧ (Flag.not f).val = !f.val := by
  simp

/-- Staging rule: the result is a Python bool exactly when all operands are. -/
theorem C20_flagop_concreteness (f g : Flag) :
    (Flag.and f g).isConc = (f.isConc && g.isConc) ∧ (Flag.or f g).isConc = (f.isConc && g.isConc) ∧
    (Flag.xor f g).isConc = (f.isConc && g.isConc) ∧ (Flag.not f).isConc = f.isConc := by
  simp

theorem C20_flagop_mode_invariance (f f' g g' : Flag) (hf : f.val = f'.val) (hg : g.val = g'.val) :
    (Flag.and f g).val = (Flag.and f' g').val ∧ (Flag.or f g).val = (Flag.or f' g').val ∧
    (Flag.xor f g).val = (Flag.xor f' g').val ∧ (Flag.not f).val = (Flag.not f').val := by
  simp [hf, hg]

/-- Boolean algebra as *equalities of flags* (truth value and staging mode together):
    involution, De Morgan, commutativity. -/
theorem C20_flagop_algebra (f g : Flag) :
    Flag.not (Flag.not f) = f ∧
    Flag.not (Flag.and f g) = Flag.or (Flag.not f) (Flag.not g) ∧
    Flag.not (Flag.or f g) = Flag.and (Flag.not f) (Flag.not g) ∧
    Flag.and f g = Flag.and g f ∧ Flag.or f g = Flag.or g f ∧ Flag.xor f g = Flag.xor g f := by
  -- two flags are equal when truth value and staging mode are; on both every operation is Boolean
  refine ⟨Flag.not_not f, ?_, ?_, ?_, ?_, ?_⟩ <;> apply Flag.eq_of_val_isConc <;>
    simp only [Flag.val_not, Flag.val_and, Flag.val_or, Flag.val_xor, Flag.isConc_not, Flag.isConc_and,
      Flag.isConc_or, Flag.isConc_xor, Bool.not_and, Bool.not_or, Bool.and_comm, Bool.or_comm, Bool.xor_comm]

example : (Flag.conc true).val = (Flag.dyn true).val := rfl

/-- Array flags: elementwise for equal lengths (any length), scalar operands broadcast, unequal
    lengths are an error. -/
theorem C20_flagop_vec (fs gs : List Bool) (s : Flag) :
    (fs.length = gs.length →
      FlagArg.and (.vec fs) (.vec gs) = .ok (.vec (List.zipWith (· && ·) fs gs)) ∧
      FlagArg.or (.vec fs) (.vec gs) = .ok (.vec (List.zipWith (· || ·) fs gs)) ∧
      FlagArg.xor (.vec fs) (.vec gs) = .ok (.vec (List.zipWith (· ^^ ·) fs gs))) ∧
    (fs.length ≠ gs.length →
      FlagArg.and (.vec fs) (.vec gs) = .error .shape ∧ FlagArg.or (.vec fs) (.vec gs) = .error .shape ∧
      FlagArg.xor (.vec fs) (.vec gs) = .error .shape) ∧
    FlagArg.and (.sc s) (.vec gs) = .ok (.vec (gs.map (s.val && ·))) ∧
    FlagArg.or (.vec fs) (.sc s) = .ok (.vec (fs.map (· || s.val))) ∧
    FlagArg.not (.vec fs) = .vec (fs.map (!·)) := by
  -- all three are `FlagArg.lift2`, whose vector-vector arm is the `if` on the two lengths
  exact ⟨fun h => ⟨if_pos h, if_pos h, if_pos h⟩, fun h => ⟨if_neg h, if_neg h, if_neg h⟩, rfl, rfl, rfl⟩

example : ([true, false] : List Bool).length = [false, false].length := rfl

/-- `where`: concrete flags return the chosen alternative untouched (no typing demand); traced
    flags give the same choice provided both alternatives have one (shape, dtype). -/
theorem C20_where {α} [Shaped α] (f : Flag) (t e : α) :
    (f.isConc = true → whereF f t e = .ok (if f.val then t else e)) ∧
    (Shaped.sameType t e = true → whereF f t e = .ok (if f.val then t else e)) ∧
    (f.isConc = false → Shaped.sameType t e = false → whereF f t e = .error .typeErr) := by
  cases f with
  | conc b => cases b <;> exact ⟨fun _ => rfl, fun _ => rfl, nofun⟩
  | dyn b => exact ⟨nofun, fun h => if_pos h, fun _ h => if_neg (Bool.eq_false_iff.1 h)⟩

example : Shaped.sameType (Tree.node [.leaf 1, .leaf 2]) (Tree.node [.leaf 5, .leaf 6]) = true := by
  decide +kernel

/-- `where` with an array flag: elementwise over equal lengths (any length). -/
theorem C20_where_vec {α} (fs : List Bool) (t e : List α)
    (h : fs.length = t.length ∧ t.length = e.length) :
    whereV fs t e =
      .ok (List.zipWith (fun (b : Bool) (p : α × α) => if b then p.1 else p.2) fs (List.zip t e)) :=
  if_pos h

example : ([true, false] : List Bool).length = [1, 2].length ∧ [1, 2].length = [3, 4].length :=
  ⟨rfl, rfl⟩

/-- `cond`: runs `tf` when the flag is true, else `ff`, in every mode (for a traced flag under
    the typing demand of `lax.cond`); a vector flag is an error. -/
theorem C20_cond {α β} [Shaped β] (f : Flag) (tf ff : α → β) (a : α) (fs : List Bool) :
    (f.isConc = true → condF (.sc f) tf ff a = .ok (if f.val then tf a else ff a)) ∧
    (Shaped.sameType (tf a) (ff a) = true →
      condF (.sc f) tf ff a = .ok (if f.val then tf a else ff a)) ∧
    (f.isConc = false → Shaped.sameType (tf a) (ff a) = false →
      condF (.sc f) tf ff a = .error .typeErr) ∧
    condF (.vec fs) tf ff a = .error .notScalar := by
  have hw := C20_where f (tf a) (ff a)
  rw [← condF_sc] at hw
  exact ⟨hw.1, hw.2.1, hw.2.2, rfl⟩

/-- `tree_choose` returns the element at `idx mod n` (mathematical, non-negative remainder),
    for every integer index and every non-empty list, in both staging modes. -/
theorem C20_treeChoose_mod {α} (idx : Idx) (vs : List α) (h : vs ≠ []) :
    ∃ (k : Nat) (hk : k < vs.length),
      (k : Int) = idx.val % (vs.length : Int) ∧ treeChoose idx vs = .ok vs[k] := by
  have hpos := List.length_pos_iff.mpr h
  exact ⟨(idx.val % (vs.length : Int)).toNat, emod_toNat_lt _ hpos,
    Int.toNat_of_nonneg (Int.emod_nonneg _ (Int.ne_of_gt (Int.natCast_pos.2 hpos))), treeChoose_eq idx vs h⟩

example : treeChoose (.conc (-4)) [10, 20, 30] = .ok 30 ∧ treeChoose (.dyn 7) [10, 20, 30] = .ok 20 := by
  decide +kernel

/-- In range it is plain indexing; the mode of the index never matters. -/
theorem C20_treeChoose_inrange {α} (idx : Idx) (vs : List α) (k : Nat) (hk : k < vs.length)
    (h : idx.val = k) : treeChoose idx vs = .ok vs[k] := by
  have e : (idx.val % (vs.length : Int)).toNat = k := by
    rw [h, Int.emod_eq_of_lt (Int.natCast_nonneg k) (Int.ofNat_lt.2 hk), Int.toNat_natCast]
  rw [treeChoose_eq idx vs (List.ne_nil_of_length_pos (Nat.zero_lt_of_lt hk))]
  simp only [e]

example : (Idx.dyn 2).val = ((2 : Nat) : Int) := rfl

theorem C20_treeChoose_mode_invariance {α} (i : Int) (vs : List α) :
    treeChoose (.conc i) vs = treeChoose (.dyn i) vs := treeChoose_conc i vs

theorem C20_treeChoose_empty {α} (idx : Idx) : treeChoose idx ([] : List α) = .error .empty := rfl

/-- dtype promotion: the result carries the value of the selected element and the promotion of
    all choices' dtypes (an upper bound of every choice's dtype that is one of them, `bool` at
    least). -/
theorem C20_chooseLeaf (idx : Idx) (vs : List Leaf) (h : vs ≠ []) :
    ∃ (k : Nat) (hk : k < vs.length), (k : Int) = idx.val % (vs.length : Int) ∧
      chooseLeaf idx vs = .ok ⟨joinAll vs, vs[k].x⟩ ∧
      (∀ l ∈ vs, l.dt.rank ≤ (joinAll vs).rank) ∧
      (joinAll vs = .b ∨ ∃ l ∈ vs, joinAll vs = l.dt) := by
  obtain ⟨k, hk, hmod, hc⟩ := C20_treeChoose_mod idx vs h
  refine ⟨k, hk, hmod, ?_, (foldl_join_ge vs .b).2, foldl_join_mem vs .b⟩
  rw [chooseLeaf, hc]
  rfl

example : chooseLeaf (.conc 0) [⟨.b, 1⟩, ⟨.i, 20⟩, ⟨.f, 3⟩] = .ok ⟨.f, 1⟩ := by decide +kernel

/-- Array index: elementwise (`chooseElem` is by definition the per-position `chooseLeaf`);
    stated for the length: one output per index entry. -/
theorem C20_chooseElem_length (idx : List Int) (cols : List (List Leaf)) (out : List Leaf)
    (h : chooseElem idx cols = .ok out) : out.length = idx.length := by
  unfold chooseElem at h
  split at h
  · rename_i hl
    rw [mapM_ok_length _ _ _ h, List.length_zip, ← hl, Nat.min_self]
  · cases h

example : chooseElem [0, -1] [[⟨.i, 1⟩, ⟨.i, 2⟩], [⟨.b, 1⟩, ⟨.f, 7⟩]] = .ok [⟨.i, 1⟩, ⟨.f, 7⟩] := by decide +kernel

/-- The clamp of `lax.switch`. -/
theorem C20_clamp (i : Int) (n : Nat) :
    (i < 0 → clamp i n = 0) ∧ ((n : Int) ≤ i → clamp i n = n - 1) ∧
    (0 ≤ i → i < (n : Int) → (clamp i n : Int) = i) := by
  unfold clamp
  refine ⟨fun h => if_pos h, fun h => ?_, fun h0 h1 => ?_⟩
  · rw [if_neg (Int.not_lt.2 (Int.le_trans (Int.natCast_nonneg n) h)), if_pos h]
  · rw [if_neg (Int.not_lt.2 h0), if_neg (Int.not_le.2 h1)]
    exact Int.toNat_of_nonneg h0

/-- `multi_switch` returns one slot per branch; the slot at the clamped index holds that
    branch's real output, every other slot the zero placeholder of its own branch's output
    shape — for every integer index and heterogeneous outputs. -/
theorem C20_multiSwitch_clamp {α β} (zero : β → β) (idx : Int) (fs : List (α → β)) (args : List α)
    (h : fs.length = args.length) (hne : fs ≠ []) :
    ∃ out, multiSwitch zero idx fs args = .ok out ∧ out.length = fs.length ∧
      clamp idx fs.length < fs.length ∧
      ∀ (j : Nat) (hj : j < fs.length) (hj' : j < args.length),
        out[j]? = some (if j = clamp idx fs.length then fs[j] args[j] else zero (fs[j] args[j])) := by
  have hpos : 0 < fs.length := List.length_pos_iff.mpr hne
  have hzl : (List.zip fs args).length = fs.length := by rw [List.length_zip, ← h, Nat.min_self]
  have hnz : (List.zip fs args).isEmpty = false := by
    rw [List.isEmpty_eq_false_iff, ← List.length_pos_iff, hzl]
    exact hpos
  refine ⟨_, by simp only [multiSwitch, hnz]; rfl, ?_, clamp_lt idx hpos, ?_⟩
  · rw [List.length_map, List.length_zip, List.length_range, List.length_map, Nat.min_self, hzl]
  · intro j hj hj'
    have e : (List.zip fs args)[j]? = some (fs[j], args[j]) :=
      List.getElem?_zip_eq_some.2 ⟨List.getElem?_eq_getElem hj, List.getElem?_eq_getElem hj'⟩
    rw [List.getElem?_map, getElem?_zip_range, List.getElem?_map, e, hzl]
    rfl

example : ([fun (x : Int) => x + 1, fun x => x * 2] : List (Int → Int)).length = [5, 6].length := rfl

theorem C20_multiSwitch_empty {α β} (zero : β → β) (idx : Int) (args : List α) :
    multiSwitch zero idx ([] : List (α → β)) args = .error .empty := rfl

/-- Concrete instance (a test, not the theorem): index 7 over three heterogeneous branches. -/
example :
    (multiSwitch Tree.zeros 7 [fun t => Tree.map (· + 1) t, fun t => Tree.node [t, t], fun _ => Tree.leaf 9]
      [Tree.leaf 5, Tree.leaf 2, Tree.leaf 0]).toOption.map (·.map (Tree.beq · (Tree.leaf 0)))
      = some [true, false, false] := by decide +kernel

end GenjaxVerif.MaskModel
