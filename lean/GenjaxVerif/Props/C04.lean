import GenjaxVerif.Lemmas.GFIRun
import GenjaxVerif.Props.GFITest
/-!
# C04 — simulate samples the program's distribution and is a function of the key

What the model can carry: `simulate` is a function of (key, arguments); every freshly drawn
choice is `sample d key' args` for the key path `key'` handed to its site; the static language
and vmap derive pairwise distinct, prefix-free keys for their sites; scan does NOT (refuted).
The statistical content (frequencies converge) is outside: it is the PRNG's.
-/
namespace GenjaxVerif.GFI
open GenjaxVerif

/-- Determinism: equal keys and arguments give equal traces. -/
theorem C04_simulate_deterministic (ds : DistSem) (p : Prog) (k : KeyPath) (a : Val) :
    ∀ t1 t2, simulate ds p k a = .ok t1 → simulate ds p k a = .ok t2 → t1 = t2 := by
  intro t1 t2 h1 h2; rw [h1] at h2; cases h2; rfl

/-- A simulated primitive choice is the sampler applied to the key path handed to that site. -/
theorem C04_site_value (ds : DistSem) (d : Nat) (i : In) (r : Res) (h : run ds .sim (.dist d) i = .ok r) :
    r.tr = .dist d i.args (ds.sample d i.key i.args) (ds.lp d (ds.sample d i.key i.args) i.args) := by
  cases leaf_sim.symm.trans h; rfl

/-- Key derivation of the static language: statement number `n` (from 1) gets `fold_in(key, n)`. -/
theorem C04_static_site_key (m : Mode) (i i' : In) (olds) (st : SState) (addr : List String) (a : List Val)
    (h : bindIn m i olds st addr a = .ok i') : i'.key = i.key.child st.counter := by
  obtain ⟨_, _, _, _, rfl⟩ := bindIn_ok.1 h
  rfl

/-- Two different statements (or two different vmap elements) get keys neither of which is a
    prefix of the other, so everything derived below them stays distinct. -/
theorem C04_children_prefix_free (k : KeyPath) (a b : Nat) (hab : a ≠ b) (s t : List Nat) :
    k.child a ++ s ≠ k.child b ++ t := by
  intro h
  simp only [KeyPath.child, List.append_assoc, List.append_cancel_left_eq, List.cons_append, List.nil_append,
    List.cons.injEq] at h
  exact hab h.1

theorem C04_vmap_element_key (axes : List Ax) (as : List Val) (i ik : In) (k : Nat)
    (h : vmapElem axes as i k = .ok ik) : ik.key = i.key.child k := by
  obtain ⟨_, _, _, _, rfl⟩ := vmapElem_ok.1 h
  rfl

/-- The full independence claim: distinct primitive sites of one `simulate` never receive the
    same key.  Stated on the observable level with a key-revealing sampler (`keyDS`: the sampled
    value is an injective code of the key path, for paths over digits < 9). -/
def keyDS : DistSem := ⟨fun _ key _ => key.foldl (fun acc x => acc * 10 + (x + 1 : Nat)) 0, fun _ v _ => v⟩

/-- The values of the choices of a simulated trace (under `keyDS`: codes of the sites' keys). -/
def simValues (ds : DistSem) (p : Prog) (k : KeyPath) (a : Val) : Option (List CVal) :=
  (simulate ds p k a).toOption.map fun t => t.choices.map (·.2)

def C04_full : Prop :=
  ∀ (p : Prog) (k : KeyPath) (a : Val) (vs : List CVal), simValues keyDS p k a = some vs → vs.Nodup

/-- kernel(c, x):  u ~ d0() @ "x";  v ~ inner() @ "y"  with  inner(): d0() @ "a" -/
def chainKernel : Prog :=
  .static (.bind ["x"] (.dist 0) [] (.bind ["y"] (.static (.bind ["a"] (.dist 0) [] (.ret (.var 0)))) []
    (.ret (.tup [.var 0, .tup []]))))

/-- REFUTED: `Scan` chains `key = fold_in(key, count)` and hands that same key to the kernel, so
    iteration 1's nested site `y/a` (key …,0,1,2,1) and iteration 2's site `x` (same key) draw the
    same randomness — the implementation shows identical samples there for every seed. -/
theorem C04_refuted : ¬ C04_full := by
  intro h
  have h1 : simValues keyDS (.scan chainKernel (some 3)) [0] (.tup [.int 0, .tup []]) =
      some [.plain 112, .plain 1132, .plain 1122, .plain 11232, .plain 11232, .plain 112332] := by decide +kernel
  exact absurd (h _ _ _ _ h1) (by decide +kernel)

/-- Proved part for the static language and vmap is `C04_children_prefix_free` with
    `C04_static_site_key` / `C04_vmap_element_key`; non-vacuity (a test): no collision without scan. -/
example : ∃ vs, simValues keyDS Test.prog1 [0] (.tup [.int 3]) = some vs ∧ vs.Nodup :=
  ⟨[.plain 12, .plain 131, .plain 132], by decide +kernel, by decide +kernel⟩

end GenjaxVerif.GFI
