import GenjaxVerif.Lemmas.IR
/-!
# C36 — the stateful interpreter is transparent for unhandled primitives

Statements about `evalStateful` (`StatefulInterpreter.eval_jaxpr_stateful`) for ALL jaxprs,
ALL primitive semantics `sem`, all constants and arguments.  Control-flow primitives,
literals, closed-over constants (constvars), DropVars and multi-result primitives are
covered because nothing is assumed about the program or about `sem`; results are equal as
`Except` values, so the same exception is raised in the same situations.
-/
namespace GenjaxVerif.IR

/-- General form: under any handler the stateful interpreter is ordinary evaluation with the
    handled primitives' meaning replaced by `dispatch`. -/
theorem C36_stateful_eq_plain_override (sem : Sem) (h : Handler Val) (j : Jaxpr) (consts args : List Val) :
    evalStateful sem h j consts args = evalPlain (h.override sem) j consts args :=
  evalStateful_eq_plain_override sem h j consts args

/-- The property: with a handler that handles no primitive, the stateful interpreter returns
    exactly what ordinary evaluation returns. -/
theorem C36_stateful_eq_plain (sem : Sem) (h : Handler Val) (hno : ∀ p, h.handles p = false) (j : Jaxpr)
    (consts args : List Val) : evalStateful sem h j consts args = evalPlain sem j consts args :=
  evalStateful_eq_plain sem h hno j consts args

/-- `dispatch` of a handler that handles nothing is never consulted: any two such handlers
    give the same result. -/
theorem C36_dispatch_irrelevant (sem : Sem) (h h' : Handler Val) (hno : ∀ p, h.handles p = false)
    (hno' : ∀ p, h'.handles p = false) (j : Jaxpr) (consts args : List Val) :
    evalStateful sem h j consts args = evalStateful sem h' j consts args := by
  rw [C36_stateful_eq_plain sem h hno, C36_stateful_eq_plain sem h' hno']

/-- Initial-style primitives evaluate their wrapped jaxpr.  If the primitive `p` is
    implemented by `initial_style_bind`'s `_impl` (so `bind` = `initialStyleImpl`, over any
    inner semantics `sem'`), then the interpreter step for an equation
    `outs = p[impl=J, num_consts=k] ins` reads the operands, evaluates `J` by ordinary
    evaluation on (first `k` operands as consts, the rest as arguments) and writes the results. -/
theorem C36_initial_style_step (sem sem' : Sem) (h : Handler Val) (hno : ∀ p, h.handles p = false)
    (p : String) (hsem : ∀ ps vs, sem p ps vs = initialStyleImpl sem' ps vs)
    (J : Jaxpr) (cs : List Val) (k : Nat) (rest : Params) (ins : List Atom) (outs : List Binder) (e : Env Val) :
    stepStateful sem h e (.mk p true (("impl", .closed J cs) :: ("num_consts", .int k) :: rest) ins outs) =
      (do let vs ← e.readAll id ins
          let r ← evalPlain sem' J (vs.take k) (vs.drop k)
          e.writeMany outs r) := by
  rw [stepStateful_eq, Handler.override_of_noHandle sem h hno]
  refine bind_congr fun vs => ?_
  rw [Eqn.prim, Eqn.params, hsem, initialStyleImpl_closed]
  cases evalPlain sem' J (vs.take k) (vs.drop k) <;> rfl

/-- Whole-program form: through the stateful interpreter (no-op handler) a program calling
    an initial-style primitive computes what ordinary evaluation computes when the
    primitive's `bind` is its wrapped jaxpr — this is `C36_stateful_eq_plain` read at such
    a `sem`. -/
theorem C36_initial_style_program (sem sem' : Sem) (h : Handler Val) (hno : ∀ p, h.handles p = false)
    (p : String) (hsem : ∀ ps vs, sem p ps vs = initialStyleImpl sem' ps vs) (j : Jaxpr) (consts args : List Val) :
    evalStateful sem h j consts args = evalPlain sem j consts args ∧
    ∀ (J : Jaxpr) (cs : List Val) (k : Nat) (vs : List Val),
      sem p [("impl", .closed J cs), ("num_consts", .int k)] vs =
        (evalPlain sem' J (vs.take k) (vs.drop k)).map PrimOut.many :=
  ⟨C36_stateful_eq_plain sem h hno j consts args, fun J cs k vs => by rw [hsem, initialStyleImpl_closed]⟩

/-- End to end: the program `lambda *args: initial_style_bind(p)(g)(*args)` (jaxpr `isCall`),
    run by the stateful interpreter with a handler that handles nothing, returns what
    ordinary evaluation of the wrapped jaxpr `J` returns on (consts, args) — or fails with
    `arity` if `J` yields a different number of results than the equation binds. -/
theorem C36_initial_style_call (sem sem' : Sem) (h : Handler Val) (hno : ∀ p, h.handles p = false)
    (p : String) (hsem : ∀ ps vs, sem p ps vs = initialStyleImpl sem' ps vs)
    (J : Jaxpr) (cv iv ov : List Nat) (consts args : List Val)
    (hnd : (cv ++ iv).Nodup) (hov : ov.Nodup) (hc : cv.length = consts.length) (hi : iv.length = args.length) :
    evalStateful sem h (isCall p J cv iv ov) consts args =
      (evalPlain sem' J consts args >>= fun r => if ov.length = r.length then .ok r else .error .arity) := by
  -- the program binds `p` on `consts ++ args` (`evalPlain_single`), and `_impl` splits them again at `|cv|`
  rw [C36_stateful_eq_plain sem h hno, isCall, evalPlain_single sem p true _ cv iv ov consts args hnd hov hc hi, hsem,
    initialStyleImpl_closed, hc, List.take_left' rfl, List.drop_left' rfl]
  cases evalPlain sem' J consts args <;> rfl

private def sc (i : Int) : Val := ⟨.i32, [], [i]⟩

private def baseSem : Sem := fun p _ vs =>
  match p, vs with
  | "add", [a, b] => .ok (.one (sc (a.data.headD 0 + b.data.headD 0)))
  | "dup", [a] => .ok (.many [a, a])
  | _, _ => .error (.prim "unknown")

/-- `sem` for a world with one initial-style primitive `"is"` over `baseSem`. -/
private def isSem : Sem := fun p ps vs => if p = "is" then initialStyleImpl baseSem ps vs else baseSem p ps vs

private def inner : Jaxpr := .mk [7] [0] [.mk "add" false [] [.var 0, .var 7] [.var 1]] [.var 1, .lit (sc 3)]

private def outer : Jaxpr := .mk [5] [0]
  [ .mk "is" true [("impl", .closed inner []), ("num_consts", .int 1)] [.var 5, .var 0] [.var 1, .drop],
    .mk "dup" true [] [.var 1] [.drop, .var 2] ]
  [.var 2, .var 2, .lit (sc 0), .var 0]

example : ∀ p, (Handler.noop : Handler Val).handles p = false := fun _ => rfl
example : ∀ ps vs, isSem "is" ps vs = initialStyleImpl baseSem ps vs := fun _ _ => rfl
example : evalStateful isSem Handler.noop outer [sc 10] [sc 4] = .ok [sc 14, sc 14, sc 0, sc 4] := by decide +kernel
example : evalPlain isSem outer [sc 10] [sc 4] = .ok [sc 14, sc 14, sc 0, sc 4] := by decide +kernel
example : evalPlain baseSem inner [sc 10] [sc 4] = .ok [sc 14, sc 3] := by decide +kernel
example : evalStateful isSem Handler.noop (isCall "is" inner [20] [21] [30, 31]) [sc 10] [sc 4] = .ok [sc 14, sc 3] := by decide +kernel
example : ([20] ++ [21] : List Nat).Nodup ∧ ([30, 31] : List Nat).Nodup := by decide
/-- error cases are real -/
example : evalStateful isSem Handler.noop (isCall "is" inner [20] [21] [30]) [sc 10] [sc 4] = .error .arity := by decide +kernel
example : evalStateful isSem Handler.noop outer [] [sc 4] = .error .arity := by decide +kernel
example : evalStateful baseSem Handler.noop (.mk [] [] [] [.var 1]) [] [] = .error (.unbound 1) := by decide +kernel
/-- a handler that does handle something changes the result (the theorem's hypothesis matters) -/
example : evalStateful isSem ⟨fun p => p = "dup", fun _ _ vs => .ok (.many (vs ++ [sc 99]))⟩ outer [sc 10] [sc 4]
    = .ok [sc 99, sc 99, sc 0, sc 4] := by decide +kernel

end GenjaxVerif.IR
