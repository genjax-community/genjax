import GenjaxVerif.Lemmas.Chm
/-!
# C17 — Choice map queries agree with a finite-map model

Statements about the representation layer (`Chm`, its smart constructors, `getInnerF`,
`filterSelF`, `filterFlagF`, `mkOrF`, `extend`, `selMemF`) against the semantic layer
(`denote : Chm → Path → Option MV`, the reference finite map) of `Model/Chm.lean`.

Strength.  The theorems are proved for ALL maps of the static-address fragment
(`staticOnly c`: `Static`/`Choice` nodes, leaves bare or traced-masked, scalar or 1-D array),
all selections, all flags, ALL lookup paths (static and index components) and every fuel value
for which the model returns a result; `wf` is the representation invariant (`Static.build`:
unique keys, no empty entries) and is *preserved* by every operation (part of each theorem),
so it holds for everything built from `empty`/`choice` by the builders.
`_partial` marks theorems whose hypothesis excludes `Indexed`/`Switch`/`Or` nodes; those node
kinds are modelled branch for branch and tied to the code by the correspondence run, and
`denote` is defined for them, but only the index-level facts below are proved.
`C17_getSelection_full` is REFUTED by the faithful model (`C17_getSelection_refuted`):
`get_selection()` is blind below an index level.
-/
namespace GenjaxVerif.Chm
open Sel

/-- `get_submap` / `get_inner_map` on a static component is the sub-map of the denotation. -/
theorem C17_denote_getInner_partial (k : Nat) (c r : Chm) (x : String) (hso : staticOnly c = true) (hwf : wf c = true)
    (h : getInnerF (k + 1) c (.s x) = .ok r) :
    (∀ p, denote r p = denote c (.s x :: p)) ∧ staticOnly r = true ∧ wf r = true := by
  cases (getInner_static hso k x).symm.trans h
  exact ⟨den_innerStatic hso x [], frag_innerStatic ⟨hso, hwf⟩ x⟩

/-- `get_submap` / `get_inner_map` on an index component (array leaves: every leaf below is
    sliced) is the sub-map of the denotation; wherever the index sits relative to the static
    components (`chm[i, "x"]` and `chm["x", i]` agree). -/
theorem C17_denote_getInner_idx_partial (k : Nat) (c r : Chm) (n : Nat) (hso : staticOnly c = true)
    (h : getInnerF (k + 1) c (.i n) = .ok r) (p : Path) : denote r p = denote c (.i n :: p) :=
  (getInner_den hso k (.i n) h).2 p

/-- `get_submap(*path)` for a static path, iterated. -/
theorem C17_denote_getSubmap_partial (k : Nat) : ∀ (xs : List String) (c r : Chm), staticOnly c = true → wf c = true →
    getSubmapF (k + 1) c (xs.map Comp.s) = .ok r → ∀ p, denote r p = denote c (xs.map Comp.s ++ p) :=
  fun _ c r hso _ h => (getSubmap_den k _ c r hso h).2

/-- `|` is a left-biased union (a masked-off value counts as absent): lookup in `a | b` is the
    lookup in `a` if it yields a valid value, else the one in `b`. -/
theorem C17_denote_or_partial (k : Nat) (a b r : Chm) (hsa : staticOnly a = true) (hwa : wf a = true)
    (hsb : staticOnly b = true) (hwb : wf b = true) (h : mkOrF k a b = .ok r) :
    (∀ p, denote r p = orMV (denote a p) (denote b p)) ∧ staticOnly r = true ∧ wf r = true := by
  obtain ⟨hr, hd⟩ := mkOr_spec k a b r ⟨hsa, hwa⟩ ⟨hsb, hwb⟩ h
  exact ⟨hd [], hr⟩

/-- `mask(False)` leaves no usable value at any path (Python `False` and traced false alike). -/
theorem C17_denote_maskFalse_partial (k : Nat) (c r : Chm) (f : FlagArg) (hf : f.val = false)
    (hso : staticOnly c = true) (hwf : wf c = true) (h : filterFlagF k c f = .ok r) :
    (∀ p, usable (denote r p) = Option.none) ∧ staticOnly r = true ∧ wf r = true := by
  obtain ⟨hr, hd⟩ := filterFlag_spec k c f r ⟨hso, hwf⟩ h
  exact ⟨fun p => (hf ▸ hd [] p).usable_of_false, hr⟩

/-- `mask(True)` changes no lookup. -/
theorem C17_denote_maskTrue_partial (k : Nat) (c r : Chm) (f : FlagArg) (hf : f.val = true)
    (hso : staticOnly c = true) (hwf : wf c = true) (h : filterFlagF k c f = .ok r) :
    (∀ p, denote r p = denote c p) ∧ staticOnly r = true ∧ wf r = true := by
  obtain ⟨hr, hd⟩ := filterFlag_spec k c f r ⟨hso, hwf⟩ h
  exact ⟨fun p => (hf ▸ hd [] p).eq_of_true, hr⟩

/-- `filter(selection)` keeps exactly the entries whose static part is selected (model A's
    `mem`), index components of the lookup being transparent. -/
theorem C17_denote_filter_partial (k : Nat) (c r : Chm) (s : Sel) (hso : staticOnly c = true) (hwf : wf c = true)
    (h : filterSelF k c s = .ok r) :
    (∀ p, denote r p = if mem s (statics p) = true then denote c p else Option.none) ∧
    (∀ q, q ∈ addrs r ↔ q ∈ addrs c ∧ mem s q = true) ∧ staticOnly r = true ∧ wf r = true := by
  obtain ⟨hr, hd⟩ := filterSel_spec k c s r ⟨hso, hwf⟩ h
  exact ⟨hd [], filterSel_addrs ⟨hso, hwf⟩ h, hr⟩

/-- `extend(x)` / `entry(v, x)` / `C[x].set(v)`: one static prefix component (for every map,
    not only the static fragment); index components before it float through. -/
theorem C17_denote_extend (x : String) (c : Chm) (p : Path) :
    denote (extend c [.s x]) p =
      match splitIdx p with
      | (js, .s y :: q) => if y = x then den c js q else Option.none
      | _ => Option.none := by
  rw [denote, show extend c [.s x] = mkStatic [(x, c)] from rfl, den_mkStatic (es := [(x, c)]) (List.pairwise_singleton _ x)]
  rcases path_cases p with ⟨js, rfl⟩ | ⟨js, y, q, rfl⟩
  · rw [den_stat_idx, splitIdx_idx]
  · rw [den_stat_idx_s, splitIdx_idx_s, denL, denL]; rfl

/-- `extend(x1, …, xn)` prefixes the address. -/
theorem C17_denote_extend_path (xs : List String) (c : Chm) (q : Path) :
    denote (extend c (xs.map AddrC.s)) (xs.map Comp.s ++ q) = denote c q := by
  induction xs with
  | nil => rfl
  | cons x xs ih =>
    have : extend c ((x :: xs).map AddrC.s) = extend (extend c (xs.map AddrC.s)) [.s x] := rfl
    rw [this, C17_denote_extend]
    exact (if_pos rfl).trans ih

/-- An index level built with a Python-int / traced index answers positionally, by equality
    (for every map below it). -/
theorem C17_denote_extend_idx (c : Chm) (j n : Nat) (q : Path) :
    denote (extend c [.ix (.conc j)]) (.i n :: q) = (if j = n then denote c q else Option.none) ∧
    denote (extend c [.ix (.dyn j)]) (.i n :: q) = andMV (j == n) (denote c q) := by
  by_cases he : staticIsEmpty c = true
  · -- `Indexed.build` of the empty map is the empty map
    cases staticIsEmpty_eq he
    rw [show denote empty q = Option.none from den_empty [] q, ite_self]
    exact ⟨den_empty [] _, den_empty [] _⟩
  · have h1 : extend c [.ix (.conc j)] = indexed c (.conc j) := if_neg he
    have h2 : extend c [.ix (.dyn j)] = indexed c (.dyn j) := if_neg he
    rw [h1, h2]
    exact ⟨rfl, rfl⟩

/-- The leaves and static prefixes the builders start from are in the fragment and well formed
    (`ChoiceMap.choice`, `ChoiceMap.empty`, `extend` / `entry` / `C[x…].set` with static components). -/
theorem C17_built_base (v : RawLeaf) : staticOnly (mkChoice v) = true ∧ wf (mkChoice v) = true ∧
    staticOnly empty = true ∧ wf empty = true := by
  have h : Frag (mkChoice v) := by
    unfold mkChoice
    split
    · exact frag_empty
    · exact frag_choice _
    · exact frag_empty
    · exact frag_choice _
    · exact frag_choice _
  exact ⟨h.1, h.2, rfl, rfl⟩

theorem C17_built_extend (xs : List String) (c : Chm) (hso : staticOnly c = true) (hwf : wf c = true) :
    staticOnly (extend c (xs.map AddrC.s)) = true ∧ wf (extend c (xs.map AddrC.s)) = true := by
  induction xs with
  | nil => exact ⟨hso, hwf⟩
  | cons x xs ih =>
    exact Frag.mkStatic (es := [(x, extend c (xs.map AddrC.s))]) (List.pairwise_singleton _ x)
      fun e he => List.mem_singleton.1 he ▸ ih

/-- `chm.at[x1, …, xn].set(v)` = `entry(v, x1…xn) | chm`: the new entry wins, the rest is kept. -/
theorem C17_denote_atSet_partial (k : Nat) (e v r : Chm) (xs : List String)
    (hse : staticOnly e = true) (hwe : wf e = true)
    (hsv : staticOnly (extend v (xs.map AddrC.s)) = true) (hwv : wf (extend v (xs.map AddrC.s)) = true)
    (h : mkOrF k (extend v (xs.map AddrC.s)) e = .ok r) (p : Path) :
    denote r p = orMV (denote (extend v (xs.map AddrC.s)) p) (denote e p) :=
  (C17_denote_or_partial k _ e r hsv hwv hse hwe h).1 p

/-- `ChoiceMap.switch` with a Python-int index is that branch. -/
theorem C17_switch_conc (k : Nat) (i : Int) (cs : List Chm) (r : Chm) (h : mkSwitchF (k + 1) (.conc i) cs = .ok r) :
    pyIndex cs i = some r := by
  simp only [mkSwitchF] at h
  split at h
  · cases h; assumption
  · cases h

/-- Full statement about `get_selection()`: it selects exactly the static parts of the map's
    addresses, for every well-formed map. -/
def C17_getSelection_full : Prop :=
  ∀ (k : Nat) (c : Chm) (q : List String) (b : Bool), wf c = true → selMemF (k + 1) c q = .ok b → b = decide (q ∈ addrs c)

/-- Proved on the static fragment. -/
theorem C17_getSelection_mem_partial (k : Nat) (c : Chm) (q : List String) (b : Bool)
    (hso : staticOnly c = true) (hwf : wf c = true) (h : selMemF (k + 1) c q = .ok b) :
    b = decide (q ∈ addrs c) := Except.ok.inj (h.symm.trans (selMem_eq k q ⟨hso, hwf⟩))

/-- The faithful model refutes the full statement: `C["x", 2].set(5).get_selection()["x"]`. -/
theorem C17_getSelection_refuted : ¬ C17_getSelection_full := by
  intro h
  cases h 5 (stat [("x", indexed (choice (.plain (.int 5))) (.conc 2))]) ["x"] false (by decide +kernel) (by decide +kernel)

/-- `filter(get_selection())` of the map itself is the identity on the static fragment. -/
theorem C17_filter_own_selection_partial (k : Nat) (c r : Chm) (s : Sel) (hso : staticOnly c = true) (hwf : wf c = true)
    (hs : ∀ q, mem s q = decide (q ∈ addrs c)) (h : filterSelF k c s = .ok r) (q : List String) :
    q ∈ addrs r ↔ q ∈ addrs c := by
  rw [(C17_denote_filter_partial k c r s hso hwf h).2.1 q, hs q]; simp

/-! Non-vacuity and sanity (tests, labelled as such): concrete maps satisfying the hypotheses. -/
def exA : Chm := stat [("x", choice (.masked false (.int 4))), ("y", stat [("z", choice (.plain (.arr [1, 2, 3])))])]
def exB : Chm := stat [("x", choice (.plain (.int 7))), ("w", choice (.plain (.int 9)))]
example : staticOnly exA = true ∧ wf exA = true ∧ staticOnly exB = true ∧ wf exB = true := by decide +kernel
example : (match mkOrF 10 exA exB with
    | .ok r => denote r [.s "x"] == some ⟨true, .int 7⟩ && denote r [.s "y", .s "z", .i 1] == some ⟨true, .int 2⟩
               && denote r [.i 1, .s "y", .s "z"] == some ⟨true, .int 2⟩ && denote r [.s "w"] == some ⟨true, .int 9⟩
    | _ => false) = true := by decide +kernel
example : (match filterSelF 10 exA (atAddr [some "y"]) with
    | .ok r => denote r [.s "y", .s "z"] == some ⟨true, .arr [1, 2, 3]⟩ && denote r [.s "x"] == Option.none
    | _ => false) = true := by decide +kernel
example : (match filterFlagF 10 exA (.conc false) with
    | .ok r => denote r [.s "x"] == some ⟨false, .int 4⟩ && denote r [.s "y", .s "z"] == Option.none
    | _ => false) = true := by decide +kernel
example : (match selMemF 10 exA ["y", "z"], selMemF 10 exA ["y"] with | .ok true, .ok false => true | _, _ => false) = true := by decide +kernel
-- index levels and switch (modelled; tests only)
example : denote (extend (choice (.plain (.int 5))) [.s "x", .ix (.conc 2)]) [.s "x", .i 2] = some ⟨true, .int 5⟩ := by decide +kernel
example : (match mkSwitchF 10 (.dyn 1) [exB, exA] with
    | .ok r => denote r [.s "y", .s "z", .i 0] == some ⟨true, .int 1⟩ && usable (denote r [.s "w"]) == Option.none
    | _ => false) = true := by decide +kernel

example : (match getInnerF 5 exA (.i 1) with | .ok _ => false | .error _ => true) = true := by decide +kernel
example : (match getInnerF 5 (stat [("y", choice (.plain (.arr [1, 2, 3])))]) (.i 1) with
    | .ok r => denote r [.s "y"] == some ⟨true, .int 2⟩ | _ => false) = true := by decide +kernel

end GenjaxVerif.Chm
