import GenjaxVerif.Model.Pytree
/-! Lemmas for model J.  The children of a container are a forest, so a claim about trees is proved
    together with its forest form, the induction hypothesis at a container (`induct`, `induct₂`).
    The forest form on its own needs no second proof: a forest function at `ks` is by definition the
    tree function at a container with children `ks`, so it is the tree lemma at `mkTuple ks`. -/
namespace GenjaxVerif.PT

variable {α β γ : Type}

theorem induct {P : PT α → Prop} (Q : List (PT α) → Prop)
    (leaf : ∀ a, P (leaf a)) (node : ∀ tag st kids, Q kids → P (node tag st kids))
    (tan : ∀ c, P (tan c)) (diff : ∀ p t, P p → P t → P (diff p t))
    (nil : Q []) (cons : ∀ k ks, P k → Q ks → Q (k :: ks)) (t : PT α) : P t :=
  PT.rec leaf node tan diff nil cons t

/-- Both conclusions, for the functions that walk a second list alongside the forest. -/
theorem induct₂ {P : PT α → Prop} {Q : List (PT α) → Prop}
    (leaf : ∀ a, P (leaf a)) (node : ∀ tag st kids, Q kids → P (node tag st kids))
    (tan : ∀ c, P (tan c)) (diff : ∀ p t, P p → P t → P (diff p t))
    (nil : Q []) (cons : ∀ k ks, P k → Q ks → Q (k :: ks)) : (∀ t, P t) ∧ ∀ ks, Q ks :=
  ⟨fun t => PT.rec leaf node tan diff nil cons t, fun ks => PT.rec_1 leaf node tan diff nil cons ks⟩

theorem leavesL_eq_flatMap (ks : List (PT α)) : leavesL ks = ks.flatMap leaves := by
  induction ks with
  | nil => rfl
  | cons k ks ih => simp [leavesL, ih]

theorem bindL_eq_map (f : α → PT β) (ks : List (PT α)) : bindL f ks = ks.map (bind f) := by
  induction ks with
  | nil => rfl
  | cons k ks ih => simp [bindL, ih]

theorem leaves_bind (f : α → PT β) (t : PT α) :
    leaves (bind f t) = (leaves t).flatMap (fun a => leaves (f a)) := by
  induction t using induct (fun ks => leavesL (bindL f ks) = (leavesL ks).flatMap (fun a => leaves (f a))) with
  | leaf a => exact (List.flatMap_singleton ..).symm
  | node _ _ _ ih => exact ih
  | tan c => rfl
  | diff p t ihp iht => simp only [bind, leaves, ihp, iht, List.flatMap_append]
  | nil => rfl
  | cons k ks ihk ihks => simp only [bindL, leavesL, ihk, ihks, List.flatMap_append]

theorem leavesL_bindL (f : α → PT β) : ∀ ks : List (PT α), leavesL (bindL f ks) = (leavesL ks).flatMap (fun a => leaves (f a)) :=
  fun ks => leaves_bind f (mkTuple ks)

theorem bind_bind (f : α → PT β) (g : β → PT γ) (t : PT α) :
    bind g (bind f t) = bind (fun a => bind g (f a)) t := by
  induction t using induct (fun ks => bindL g (bindL f ks) = bindL (fun a => bind g (f a)) ks) with
  | leaf a => rfl
  | node tag st _ ih => exact congrArg (node tag st) ih
  | tan c => rfl
  | diff p t ihp iht => simp only [bind, ihp, iht]
  | nil => rfl
  | cons k ks ihk ihks => simp only [bindL, ihk, ihks]

theorem bindL_bindL (f : α → PT β) (g : β → PT γ) : ∀ ks : List (PT α), bindL g (bindL f ks) = bindL (fun a => bind g (f a)) ks :=
  fun ks => (node.inj (bind_bind f g (mkTuple ks))).2.2

theorem bind_leaf (t : PT α) : bind (fun a => leaf a) t = t := by
  induction t using induct (fun ks => bindL (fun a => leaf a) ks = ks) with
  | leaf a => rfl
  | node tag st _ ih => exact congrArg (node tag st) ih
  | tan c => rfl
  | diff p t ihp iht => simp only [bind, ihp, iht]
  | nil => rfl
  | cons k ks ihk ihks => simp only [bindL, ihk, ihks]

theorem bindL_leaf : ∀ ks : List (PT α), bindL (fun a => leaf a) ks = ks :=
  fun ks => (node.inj (bind_leaf (mkTuple ks))).2.2

theorem leaves_mapLeaves (f : α → β) (t : PT α) : leaves (mapLeaves f t) = (leaves t).map f := by
  simp only [mapLeaves, leaves_bind, leaves, List.map_eq_flatMap]

theorem mapLeaves_mapLeaves (f : α → β) (g : β → γ) (t : PT α) :
    mapLeaves g (mapLeaves f t) = mapLeaves (fun a => g (f a)) t := by
  simp only [mapLeaves, bind_bind, bind]

theorem mapLeaves_id (t : PT α) : mapLeaves (fun a => a) t = t := bind_leaf t

theorem shape_mapLeaves (f : α → β) (t : PT α) : shape (mapLeaves f t) = shape t :=
  mapLeaves_mapLeaves f _ t

theorem shape_bind (f : α → PT β) (t : PT α) : shape (bind f t) = bind (fun a => shape (f a)) t := by
  simp only [shape, mapLeaves, bind_bind]

theorem shape_node (tag : String) (st : List String) (ks : List (PT α)) :
    shape (node tag st ks) = node tag st (bindL (fun _ => leaf ()) ks) := rfl

theorem shape_diff (p t : PT α) : shape (diff p t) = diff (shape p) (shape t) := rfl

theorem fill_shape :
    (∀ (t : PT α) (r : List α), fill (shape t) (leaves t ++ r) = some (t, r)) ∧
    ∀ (ks : List (PT α)) (r : List α),
      fillL (bindL (fun _ => leaf ()) ks) (leavesL ks ++ r) = some (ks, r) := by
  apply induct₂
  case leaf => exact fun a r => rfl
  case node => exact fun tag st kids ih r => by simp only [shape_node, leaves, fill, ih r]
  case tan => exact fun c r => rfl
  case diff =>
    intro p t ihp iht r
    simp only [shape_diff, leaves, fill, List.append_assoc, ihp (leaves t ++ r), iht r]
  case nil => exact fun r => rfl
  case cons =>
    intro k ks ihk ihks r
    have hk : fill (bind (fun _ => leaf ()) k) (leaves k ++ (leavesL ks ++ r)) = some (k, leavesL ks ++ r) :=
      ihk (leavesL ks ++ r)
    simp only [bindL, leavesL, fillL, List.append_assoc, hk, ihks r]

theorem fillL_shape : ∀ (ks : List (PT α)) (r : List α),
    fillL (bindL (fun _ => leaf ()) ks) (leavesL ks ++ r) = some (ks, r) := fill_shape.2

theorem fill_sound :
    (∀ (td : PT Unit) (xs : List α) (t : PT α) (r : List α),
      fill td xs = some (t, r) → shape t = td ∧ xs = leaves t ++ r) ∧
    ∀ (tds : List (PT Unit)) (xs : List α) (ks : List (PT α)) (r : List α),
      fillL tds xs = some (ks, r) → bindL (fun _ => leaf ()) ks = tds ∧ xs = leavesL ks ++ r := by
  apply induct₂
  case leaf =>
    intro u xs t r h
    cases xs with
    | nil => cases h
    | cons x xs => cases h; exact ⟨rfl, rfl⟩
  case node =>
    intro tag st kids ih xs t r h
    simp only [fill] at h
    split at h
    · cases h
    · rename_i ks r' hk
      cases h
      obtain ⟨h1, h2⟩ := ih xs ks r hk
      exact ⟨by rw [shape_node, h1], h2⟩
  case tan =>
    intro c xs t r h
    cases h
    exact ⟨rfl, rfl⟩
  case diff =>
    intro p q ihp ihq xs t r h
    simp only [fill] at h
    split at h
    · cases h
    · rename_i p' r1 hp
      split at h
      · cases h
      · rename_i q' r2 hq
        cases h
        obtain ⟨a1, a2⟩ := ihp xs p' r1 hp
        obtain ⟨b1, b2⟩ := ihq r1 q' r hq
        exact ⟨by rw [shape_diff, a1, b1], by rw [a2, b2, leaves, List.append_assoc]⟩
  case nil =>
    intro xs ks r h
    cases h
    exact ⟨rfl, rfl⟩
  case cons =>
    intro td tds ih1 ih2 xs ks r h
    simp only [fillL] at h
    split at h
    · cases h
    · rename_i k' r1 hp
      split at h
      · cases h
      · rename_i ks' r2 hq
        cases h
        obtain ⟨a1, a2⟩ := ih1 xs k' r1 hp
        obtain ⟨b1, b2⟩ := ih2 r1 ks' r hq
        exact ⟨by rw [bindL, b1, ← a1]; rfl, by rw [a2, b2, leavesL, List.append_assoc]⟩

theorem fillL_sound : ∀ (tds : List (PT Unit)) (xs : List α) (ks : List (PT α)) (r : List α),
    fillL tds xs = some (ks, r) → bindL (fun _ => leaf ()) ks = tds ∧ xs = leavesL ks ++ r :=
  fill_sound.2

theorem unflatten_ok_iff (td : PT Unit) (xs : List α) (t : PT α) :
    unflatten td xs = .ok t ↔ shape t = td ∧ leaves t = xs := by
  constructor
  · intro h
    unfold unflatten at h
    split at h
    · rename_i t' hf
      cases h
      obtain ⟨h1, h2⟩ := fill_sound.1 td xs t [] hf
      exact ⟨h1, by rw [h2, List.append_nil]⟩
    · cases h
  · rintro ⟨rfl, rfl⟩
    have h := fill_shape.1 t []
    rw [List.append_nil] at h
    simp only [unflatten, h]

@[simp] theorem isDiff_leaf (a : α) : isDiff (leaf a) = false := rfl
@[simp] theorem isDiff_node (tag : String) (st : List String) (ks : List (PT α)) : isDiff (node tag st ks) = false := rfl
@[simp] theorem isDiff_tan (c : Change) : isDiff (tan c : PT α) = false := rfl
@[simp] theorem isDiff_diff (p t : PT α) : isDiff (diff p t) = true := rfl
@[simp] theorem isCT_leaf (a : α) : isChangeTangent (leaf a) = false := rfl
@[simp] theorem isCT_node (tag : String) (st : List String) (ks : List (PT α)) : isChangeTangent (node tag st ks) = false := rfl
@[simp] theorem isCT_tan (c : Change) : isChangeTangent (tan c : PT α) = true := rfl
@[simp] theorem isCT_diff (p t : PT α) : isChangeTangent (diff p t) = false := rfl

theorem isChangeTangent_iff (t : PT α) : isChangeTangent t = true ↔ ∃ c, t = tan c := by
  cases t <;> simp [isChangeTangent]

theorem isNoChange_iff (t : PT α) : isNoChange t = true ↔ t = tan .no := by
  cases t with
  | tan c => cases c <;> simp [isNoChange]
  | _ => simp [isNoChange]

theorem both_ok {γ δ : Type} (x : Except Err γ) (y : Except Err δ) (a : γ) (b : δ) :
    both x y = .ok (a, b) ↔ x = .ok a ∧ y = .ok b := by
  cases x <;> cases y <;> simp [both]

theorem plain_noDiff (t : PT α) : plain t = true → noDiff t = true := by
  induction t using induct (fun ks => plainL ks = true → noDiffL ks = true) with
  | leaf _ => exact fun _ => rfl
  | node _ _ _ ih => exact ih
  | tan _ => exact fun h => nomatch h
  | diff _ _ _ _ => exact fun h => nomatch h
  | nil _ => rfl
  | cons k ks ihk ihks h =>
    simp only [plainL, Bool.and_eq_true] at h
    simp only [noDiffL, ihk h.1, ihks h.2, Bool.and_self]

theorem plainL_noDiffL : ∀ ks : List (PT α), plainL ks = true → noDiffL ks = true :=
  fun ks => plain_noDiff (mkTuple ks)

/-- When `u` holds no `Diff` nothing above the grafted images stops the traversal, so `g` works
    inside each image.  `tree_primal` / `tree_tangent` of a `Diff`-free or freshly wrapped tree are
    instances. -/
theorem mapUpTo_bind (g : PT β → PT β) (f : α → PT β) (u : PT α) : noDiff u = true →
    mapUpTo isDiff g (bind f u) = bind (fun a => mapUpTo isDiff g (f a)) u := by
  induction u using induct (fun ks => noDiffL ks = true →
    mapUpToL isDiff g (bindL f ks) = bindL (fun a => mapUpTo isDiff g (f a)) ks) with
  | leaf _ => exact fun _ => rfl
  | node tag st _ ih => exact fun h => congrArg (node tag st) (ih h)
  | tan _ => exact fun _ => rfl
  | diff _ _ _ _ => exact fun h => nomatch h
  | nil _ => rfl
  | cons k ks ihk ihks h =>
    simp only [noDiffL, Bool.and_eq_true] at h
    simp only [bindL, mapUpToL, ihk h.1, ihks h.2]

theorem mapUpTo_noDiff (g : PT α → PT α) (t : PT α) (h : noDiff t = true) :
    mapUpTo isDiff g t = bind (fun a => g (leaf a)) t := by
  have := mapUpTo_bind g leaf t h
  rwa [bind_leaf] at this

theorem treePrimal_noDiff (t : PT α) (h : noDiff t = true) : treePrimal t = t :=
  (mapUpTo_noDiff primalOf t h).trans (bind_leaf t)

theorem treePrimalL_noDiff : ∀ ks : List (PT α), noDiffL ks = true → mapUpToL isDiff primalOf ks = ks :=
  fun ks h => (node.inj (treePrimal_noDiff (mkTuple ks) h)).2.2

theorem treeTangent_noDiff (t : PT α) (h : noDiff t = true) : treeTangent t = bind (fun _ => tan .no) t :=
  mapUpTo_noDiff tangentOf t h

theorem treeTangentL_noDiff : ∀ ks : List (PT α), noDiffL ks = true →
    mapUpToL isDiff tangentOf ks = bindL (fun _ => tan .no) ks :=
  fun ks h => (node.inj (treeTangent_noDiff (mkTuple ks) h)).2.2

theorem treePrimal_wrap (c : Change) (u : PT α) (h : noDiff u = true) : treePrimal (wrap c u) = u :=
  (mapUpTo_bind primalOf _ u h).trans (bind_leaf u)

theorem treePrimalL_wrap (c : Change) : ∀ ks : List (PT α), noDiffL ks = true →
    mapUpToL isDiff primalOf (bindL (fun a => diff (leaf a) (tan c)) ks) = ks :=
  fun ks h => (node.inj (treePrimal_wrap c (mkTuple ks) h)).2.2

theorem treeTangent_wrap (c : Change) (u : PT α) (h : noDiff u = true) :
    treeTangent (wrap c u) = bind (fun _ => tan c) u :=
  mapUpTo_bind tangentOf _ u h

theorem treeTangentL_wrap (c : Change) : ∀ ks : List (PT α), noDiffL ks = true →
    mapUpToL isDiff tangentOf (bindL (fun a => diff (leaf a) (tan c)) ks) = bindL (fun _ => tan c) ks :=
  fun ks h => (node.inj (treeTangent_wrap c (mkTuple ks) h)).2.2

theorem treeDiff_const (c : Change) :
    (∀ t : PT α, treeDiff t (bind (fun _ => tan c) t) = .ok (wrap c t)) ∧
    ∀ ks : List (PT α),
      treeDiffL ks (bindL (fun _ => tan c) ks) = .ok (bindL (fun a => diff (leaf a) (tan c)) ks) := by
  apply induct₂
  case leaf => exact fun a => rfl
  case node => exact fun tag st kids ih => by simp only [treeDiff, bind, wrap, ih, and_self, if_true]
  case tan => exact fun c' => by simp only [treeDiff, bind, wrap, if_true]
  case diff =>
    intro p t ihp iht
    simp only [wrap] at ihp iht
    simp only [treeDiff, bind, wrap, ihp, iht, both]
  case nil => rfl
  case cons =>
    intro k ks ihk ihks
    simp only [wrap] at ihk
    simp only [treeDiffL, bindL, ihk, ihks, both]

theorem treeDiffL_const (c : Change) : ∀ ks : List (PT α),
    treeDiffL ks (bindL (fun _ => tan c) ks) = .ok (bindL (fun a => diff (leaf a) (tan c)) ks) :=
  (treeDiff_const c).2

theorem retag_eq (c : Change) (t : PT α) : retag c t = .ok (wrap c (treePrimal t)) :=
  (treeDiff_const c).1 _

theorem plain_treePrimal (t : PT α) : flatDiff t = true → plain (treePrimal t) = true := by
  induction t using induct (fun ks => flatDiffL ks = true → plainL (mapUpToL isDiff primalOf ks) = true) with
  | leaf _ => exact fun _ => rfl
  | node _ _ _ ih => exact ih
  | tan _ => exact fun h => nomatch h
  | diff q t _ _ => exact fun h => (Bool.and_eq_true _ _ ▸ h).1
  | nil _ => rfl
  | cons k ks ihk ihks h =>
    simp only [flatDiffL, Bool.and_eq_true] at h
    simp only [treePrimal] at ihk
    simp only [mapUpToL, plainL, ihk h.1, ihks h.2, Bool.and_self]

theorem plainL_treePrimal : ∀ ks : List (PT α), flatDiffL ks = true →
    plainL (mapUpToL isDiff primalOf ks) = true :=
  fun ks => plain_treePrimal (mkTuple ks)

theorem treeDiff_inv :
    (∀ (t s r : PT α), noDiff t = true → treeDiff t s = .ok r → treePrimal r = t ∧ treeTangent r = s) ∧
    ∀ (ks ss rs : List (PT α)), noDiffL ks = true → treeDiffL ks ss = .ok rs →
      mapUpToL isDiff primalOf rs = ks ∧ mapUpToL isDiff tangentOf rs = ss := by
  apply induct₂
  case leaf =>
    intro a s r _ h
    simp only [treeDiff, mkDiff] at h
    split at h
    · cases h; exact ⟨rfl, rfl⟩
    · cases h
  case node =>
    intro tag st kids ih s r hn h
    cases s with
    | node tag' st' kids' =>
      simp only [treeDiff] at h
      split at h
      · rename_i heq
        split at h
        · rename_i rs hk
          cases h
          obtain ⟨h1, h2⟩ := ih kids' rs hn hk
          exact ⟨congrArg _ h1, by rw [← heq.1, ← heq.2]; exact congrArg _ h2⟩
        · cases h
      · cases h
    | _ => cases h
  case tan =>
    intro c s r _ h
    cases s with
    | tan c' =>
      simp only [treeDiff] at h
      split at h
      · rename_i heq
        cases h
        exact ⟨rfl, congrArg tan heq⟩
      · cases h
    | _ => cases h
  case diff => exact fun _ _ _ _ _ _ hn => nomatch hn
  case nil =>
    intro ss rs _ h
    cases ss with
    | nil => cases h; exact ⟨rfl, rfl⟩
    | cons _ _ => cases h
  case cons =>
    intro k ks ihk ihks ss rs hn h
    simp only [noDiffL, Bool.and_eq_true] at hn
    cases ss with
    | nil => cases h
    | cons s ss =>
      simp only [treeDiffL] at h
      split at h
      · rename_i a b hb
        cases h
        obtain ⟨h1, h2⟩ := ihk s a hn.1 ((both_ok _ _ a b).1 hb).1
        obtain ⟨h3, h4⟩ := ihks ss b hn.2 ((both_ok _ _ a b).1 hb).2
        simp only [treePrimal, treeTangent] at h1 h2
        exact ⟨by rw [mapUpToL, h1, h3], by rw [mapUpToL, h2, h4]⟩
      · cases h

theorem treeDiffL_inv : ∀ (ks ss rs : List (PT α)), noDiffL ks = true → treeDiffL ks ss = .ok rs →
    mapUpToL isDiff primalOf rs = ks ∧ mapUpToL isDiff tangentOf rs = ss := treeDiff_inv.2

theorem staticCheckNoChange_eq (v : PT α) : typedTangents v = true →
    staticCheckNoChange v = (frontierTangents v).all isNoChange := by
  induction v using induct (fun ks => typedTangentsL ks = true →
    (leavesUpToL isChangeTangent (mapUpToL isDiff tangentOf ks)).all isNoChange
      = (frontierTangentsL ks).all isNoChange) with
  | leaf _ => exact fun _ => rfl
  | node _ _ _ ih => exact ih
  | tan _ => exact fun _ => rfl
  | diff q t _ _ =>
    intro h
    obtain ⟨c, rfl⟩ := (isChangeTangent_iff t).1 h
    rfl
  | nil _ => rfl
  | cons k ks ihk ihks h =>
    simp only [typedTangentsL, Bool.and_eq_true] at h
    simp only [staticCheckNoChange, treeTangent] at ihk
    simp only [mapUpToL, leavesUpToL, frontierTangentsL, List.all_append, ihk h.1, ihks h.2]

theorem tangentLeavesL_all : ∀ ks : List (PT α), typedTangentsL ks = true →
    (leavesUpToL isChangeTangent (mapUpToL isDiff tangentOf ks)).all isNoChange
      = (frontierTangentsL ks).all isNoChange :=
  fun ks => staticCheckNoChange_eq (mkTuple ks)

theorem plain_allTangents (t : PT α) : plain t = true → allTangents t = [] := by
  induction t using induct (fun ks => plainL ks = true → allTangentsL ks = []) with
  | leaf _ => exact fun _ => rfl
  | node _ _ _ ih => exact ih
  | tan _ => exact fun h => nomatch h
  | diff _ _ _ _ => exact fun h => nomatch h
  | nil _ => rfl
  | cons k ks ihk ihks h =>
    simp only [plainL, Bool.and_eq_true] at h
    simp only [allTangentsL, ihk h.1, ihks h.2, List.append_nil]

theorem plainL_allTangents : ∀ ks : List (PT α), plainL ks = true → allTangentsL ks = [] :=
  fun ks => plain_allTangents (mkTuple ks)

theorem flatDiff_frontier (t : PT α) : flatDiff t = true →
    frontierTangents t = allTangents t ∧ typedTangents t = true := by
  induction t using induct (fun ks => flatDiffL ks = true →
    frontierTangentsL ks = allTangentsL ks ∧ typedTangentsL ks = true) with
  | leaf _ => exact fun _ => ⟨rfl, rfl⟩
  | node _ _ _ ih => exact ih
  | tan _ => exact fun h => nomatch h
  | diff q t _ _ =>
    intro h
    simp only [flatDiff, Bool.and_eq_true] at h
    exact ⟨by rw [allTangents, plain_allTangents q h.1]; rfl, h.2⟩
  | nil _ => exact ⟨rfl, rfl⟩
  | cons k ks ihk ihks h =>
    simp only [flatDiffL, Bool.and_eq_true] at h
    simp only [frontierTangentsL, allTangentsL, typedTangentsL, ihk h.1, ihks h.2, Bool.and_self, and_self]

theorem flatDiffL_frontier : ∀ ks : List (PT α), flatDiffL ks = true →
    frontierTangentsL ks = allTangentsL ks ∧ typedTangentsL ks = true :=
  fun ks => flatDiff_frontier (mkTuple ks)

theorem leavesUpTo_wrap_all (c : Change) (u : PT α) : (leavesUpTo isDiff (wrap c u)).all isDiff = true := by
  induction u using induct (fun ks =>
    (leavesUpToL isDiff (bindL (fun a => diff (leaf a) (tan c)) ks)).all isDiff = true) with
  | leaf _ => rfl
  | node _ _ _ ih => exact ih
  | tan _ => rfl
  | diff _ _ _ _ => rfl
  | nil => rfl
  | cons k ks ihk ihks =>
    simp only [wrap] at ihk
    simp only [bindL, leavesUpToL, List.all_append, ihk, ihks, Bool.and_self]

theorem leavesUpToL_wrap_all (c : Change) : ∀ ks : List (PT α),
    (leavesUpToL isDiff (bindL (fun a => diff (leaf a) (tan c)) ks)).all isDiff = true :=
  fun ks => leavesUpTo_wrap_all c (mkTuple ks)

theorem tangentLeaves_wrap (c : Change) (u : PT α) : plain u = true →
    leavesUpTo isChangeTangent (treeTangent (wrap c u)) = (leaves u).map (fun _ => tan c) := by
  induction u using induct (fun ks => plainL ks = true →
    leavesUpToL isChangeTangent (mapUpToL isDiff tangentOf (bindL (fun a => diff (leaf a) (tan c)) ks))
      = (leavesL ks).map (fun _ => tan c)) with
  | leaf _ => exact fun _ => rfl
  | node _ _ _ ih => exact ih
  | tan _ => exact fun h => nomatch h
  | diff _ _ _ _ => exact fun h => nomatch h
  | nil _ => rfl
  | cons k ks ihk ihks h =>
    simp only [plainL, Bool.and_eq_true] at h
    simp only [treeTangent, wrap] at ihk
    simp only [bindL, mapUpToL, leavesUpToL, leavesL, List.map_append, ihk h.1, ihks h.2]

theorem tangentLeavesL_wrap (c : Change) : ∀ ks : List (PT α), plainL ks = true →
    leavesUpToL isChangeTangent (mapUpToL isDiff tangentOf (bindL (fun a => diff (leaf a) (tan c)) ks))
      = (leavesL ks).map (fun _ => tan c) :=
  fun ks => tangentLeaves_wrap c (mkTuple ks)

theorem flatDiff_wrap (c : Change) (u : PT α) : plain u = true → flatDiff (wrap c u) = true := by
  induction u using induct (fun ks => plainL ks = true →
    flatDiffL (bindL (fun a => diff (leaf a) (tan c)) ks) = true) with
  | leaf _ => exact fun _ => rfl
  | node _ _ _ ih => exact ih
  | tan _ => exact fun h => nomatch h
  | diff _ _ _ _ => exact fun h => nomatch h
  | nil _ => rfl
  | cons k ks ihk ihks h =>
    simp only [plainL, Bool.and_eq_true] at h
    simp only [wrap] at ihk
    simp only [bindL, flatDiffL, ihk h.1, ihks h.2, Bool.and_self]

theorem flatDiffL_wrap (c : Change) : ∀ ks : List (PT α), plainL ks = true →
    flatDiffL (bindL (fun a => diff (leaf a) (tan c)) ks) = true :=
  fun ks => flatDiff_wrap c (mkTuple ks)

theorem leaves_wrap (c : Change) (u : PT α) : leaves (wrap c u) = leaves u := by
  simp only [wrap, leaves_bind, leaves, List.append_nil, List.flatMap_singleton']

theorem leaves_treePrimal (t : PT α) : typedTangents t = true → leaves (treePrimal t) = leaves t := by
  induction t using induct (fun ks => typedTangentsL ks = true →
    leavesL (mapUpToL isDiff primalOf ks) = leavesL ks) with
  | leaf _ => exact fun _ => rfl
  | node _ _ _ ih => exact ih
  | tan _ => exact fun _ => rfl
  | diff q t _ _ =>
    intro h
    obtain ⟨c, rfl⟩ := (isChangeTangent_iff t).1 h
    exact (List.append_nil _).symm
  | nil _ => rfl
  | cons k ks ihk ihks h =>
    simp only [typedTangentsL, Bool.and_eq_true] at h
    simp only [treePrimal] at ihk
    simp only [mapUpToL, leavesL, ihk h.1, ihks h.2]

theorem leavesL_treePrimal : ∀ ks : List (PT α), typedTangentsL ks = true →
    leavesL (mapUpToL isDiff primalOf ks) = leavesL ks :=
  fun ks => leaves_treePrimal (mkTuple ks)

theorem leaves_mkData (cls : String) (fs : List (Field α)) : leaves (mkData cls fs) = leavesL (dynKids fs) := rfl

theorem staticPairs_mem (fs : List (Field α)) (n v : String) (h : Field.static n v ∈ fs) :
    (n ++ "=" ++ v) ∈ staticPairs fs := by
  induction fs with
  | nil => cases h
  | cons f fs ih =>
    rcases List.mem_cons.1 h with rfl | h'
    · exact List.mem_cons_self
    · cases f with
      | static _ _ => exact List.mem_cons_of_mem _ (ih h')
      | dyn _ _ => exact ih h'

theorem retag_flat (c : Change) (t r : PT α) (h : flatDiff t = true) (hr : retag c t = .ok r) :
    r = wrap c (treePrimal t) ∧ plain (treePrimal t) = true ∧ noDiff (treePrimal t) = true ∧
    leaves (treePrimal t) = leaves t := by
  rw [retag_eq] at hr
  cases hr
  have hpl := plain_treePrimal t h
  exact ⟨rfl, hpl, plain_noDiff _ hpl, leaves_treePrimal t (flatDiff_frontier t h).2⟩

/-- `no_change` / `unknown_change` preserve the primal tree (hence its structure, static data and
    values) and the leaves; already-`Diff` leaves are re-tagged, not nested. -/
theorem retag_primal (c : Change) (t r : PT α) (h : flatDiff t = true) (hr : retag c t = .ok r) :
    treePrimal r = treePrimal t ∧ leaves r = leaves t ∧ flatDiff r = true := by
  obtain ⟨rfl, hpl, hnd, hl⟩ := retag_flat c t r h hr
  exact ⟨treePrimal_wrap c _ hnd, (leaves_wrap c _).trans hl, flatDiff_wrap c _ hpl⟩

theorem retag_tangent (c : Change) (t r : PT α) (h : flatDiff t = true) (hr : retag c t = .ok r) :
    treeTangent r = bind (fun _ => tan c) (treePrimal t) ∧ staticCheckTreeDiff r = true ∧
    staticCheckNoChange r = (decide (c = .no) || (leaves t).isEmpty) := by
  obtain ⟨rfl, hpl, hnd, hl⟩ := retag_flat c t r h hr
  refine ⟨treeTangent_wrap c _ hnd, leavesUpTo_wrap_all c _, ?_⟩
  rw [staticCheckNoChange, tangentLeaves_wrap c _ hpl, hl]
  cases c <;> cases leaves t <;> simp [isNoChange]

end GenjaxVerif.PT
