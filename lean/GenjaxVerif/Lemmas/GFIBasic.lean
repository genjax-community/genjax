import GenjaxVerif.Model.GFI
import GenjaxVerif.Lemmas.Except
namespace GenjaxVerif.GFI
open GenjaxVerif

theorem vmapArgs_ok {m : Mode} {v : Val} {as : List Val} :
    vmapArgs m v = .ok as ↔ m ≠ .regen ∧ argList v = .ok as := by
  simp only [vmapArgs, ite_error_eq_ok, beq_iff_eq, ne_eq]

theorem vmapLoop_ok {f : Nat → Except Err Res} {n k rs} :
    vmapLoop f k n = .ok rs ↔ rs.length = n ∧ ∀ j (hj : j < rs.length), f (k + j) = .ok rs[j] := by
  induction n generalizing k rs with
  | zero =>
    simp only [vmapLoop, Except.ok.injEq, @eq_comm _ [] rs]
    exact ⟨fun h => h ▸ ⟨rfl, fun j hj => absurd hj (Nat.not_lt_zero j)⟩, fun h => List.eq_nil_of_length_eq_zero h.1⟩
  | succ n ih =>
    simp only [vmapLoop, bind_eq_ok, pure_eq_ok, ih]
    constructor
    · rintro ⟨r, h1, rs', ⟨rfl, h3⟩, rfl⟩
      refine ⟨rfl, fun j hj => ?_⟩
      cases j with
      | zero => exact h1
      | succ j =>
        have := h3 j (Nat.lt_of_succ_lt_succ hj)
        rw [Nat.add_right_comm] at this
        exact this
    · rintro ⟨hl, hel⟩
      cases rs with
      | nil => cases hl
      | cons r rs' =>
        refine ⟨r, hel 0 (Nat.zero_lt_succ _), rs', ⟨Nat.succ.inj hl, fun j hj => ?_⟩, rfl⟩
        rw [Nat.add_right_comm]
        exact hel (j + 1) (Nat.succ_lt_succ hj)

theorem scanLoop_nil {f : Nat → KeyPath → Val → Val → Except Err Res} {k key carry rs fin} :
    scanLoop f k key carry [] = .ok (rs, fin) ↔ rs = [] ∧ fin = carry := by
  simp only [scanLoop, Except.ok.injEq, Prod.mk.injEq, @eq_comm _ [] rs, @eq_comm _ carry fin]

theorem scanLoop_cons {f : Nat → KeyPath → Val → Val → Except Err Res} {k key carry x xs rs fin} :
    scanLoop f k key carry (x :: xs) = .ok (rs, fin) ↔
      ∃ r carry' y rs', f k (key.child k) carry x = .ok r ∧ r.tr.ret = .tup [carry', y] ∧
        scanLoop f (k + 1) (key.child k) carry' xs = .ok (rs', fin) ∧ rs = r :: rs' := by
  simp only [scanLoop, bind_eq_ok]
  constructor
  · rintro ⟨r, h1, h2⟩
    split at h2
    · next carry' y hret =>
      obtain ⟨⟨rs', fin'⟩, h3, h4⟩ := bind_eq_ok.1 h2
      cases h4
      exact ⟨r, carry', y, rs', h1, hret, h3, rfl⟩
    · cases h2
  · rintro ⟨r, carry', y, rs', h1, hret, h3, rfl⟩
    refine ⟨r, h1, ?_⟩
    simp only [hret, h3]
    rfl

theorem scanLoop_get {f : Nat → KeyPath → Val → Val → Except Err Res} {xs k key carry rs final}
    (h : scanLoop f k key carry xs = .ok (rs, final)) :
    rs.length = xs.length ∧
      ∀ j (hj : j < rs.length) (hx : j < xs.length), ∃ key' c', f (k + j) key' c' xs[j] = .ok rs[j] := by
  induction xs generalizing k key carry rs with
  | nil =>
    obtain ⟨rfl, _⟩ := scanLoop_nil.1 h
    exact ⟨rfl, fun j hj => absurd hj (Nat.not_lt_zero j)⟩
  | cons x xs ih =>
    obtain ⟨r, carry', y, rs', h1, _, h3, rfl⟩ := scanLoop_cons.1 h
    obtain ⟨hl, hg⟩ := ih h3
    refine ⟨congrArg (· + 1) hl, fun j hj hx => ?_⟩
    cases j with
    | zero => exact ⟨_, _, h1⟩
    | succ j =>
      obtain ⟨key', c', h5⟩ := hg j (Nat.lt_of_succ_lt_succ hj) (Nat.lt_of_succ_lt_succ hx)
      rw [Nat.add_right_comm] at h5
      exact ⟨key', c', h5⟩

/-! Re-running an operation so that every call returns its old trace again (`assess` on the trace's own
    choices, the empty `Update`): the scan loop and the stacking of results, for any map `T` of results that
    keeps the trace.  `run_vec_rerun` puts them together. -/

theorem scanLoop_rerun {f g : Nat → KeyPath → Val → Val → Except Err Res} {T : Res → Res}
    (hT : ∀ r, (T r).tr = r.tr) {xs k key key' carry rs fin} (h : scanLoop f k key carry xs = .ok (rs, fin))
    (hg : ∀ j (hj : j < rs.length) key1 c x, f (k + j) key1 c x = .ok rs[j] →
      ∀ key2, g (k + j) key2 c x = .ok (T rs[j])) :
    scanLoop g k key' carry xs = .ok (rs.map T, fin) := by
  induction xs generalizing k key key' carry rs with
  | nil =>
    obtain ⟨rfl, rfl⟩ := scanLoop_nil.1 h
    exact scanLoop_nil.2 ⟨rfl, rfl⟩
  | cons x xs ih =>
    obtain ⟨r, carry', y, rs', h1, hret, h3, rfl⟩ := scanLoop_cons.1 h
    refine scanLoop_cons.2 ⟨T r, carry', y, rs'.map T, hg 0 (Nat.zero_lt_succ _) _ _ _ h1 _, (hT r).symm ▸ hret, ?_, rfl⟩
    refine ih h3 fun j hj key1 c x' hf key2 => ?_
    rw [Nat.add_right_comm] at hf ⊢
    exact hg (j + 1) (Nat.succ_lt_succ hj) key1 c x' hf key2

theorem mapM_secondOfRet_map {T : Res → Res} (hT : ∀ r, (T r).tr = r.tr) (rs : List Res) :
    (rs.map T).mapM secondOfRet = rs.mapM secondOfRet := by
  induction rs with
  | nil => rfl
  | cons r rs ih => simp only [List.map_cons, List.mapM_cons, ih, secondOfRet, hT]

theorem vecRes_map {T : Res → Res} (hT : ∀ r, (T r).tr = r.tr ∧ (T r).bwd = [] ∧ (T r).bwdOk = true) (a ret : Val)
    (rs : List Res) : vecRes a ret (rs.map T) = ⟨.vec a ret (rs.map (·.tr)), sumW (rs.map T), [], true⟩ := by
  have hb : ∀ k, bwdFrom k (rs.map T) = [] := by
    induction rs with
    | nil => intro k; rfl
    | cons r rs ih => intro k; simp [bwdFrom, hT, ih, CMap.pre]
  simp [vecRes, bwdIdx, hb, allBwdOk, hT, Function.comp_def]

theorem sub_add_sub (a b c d : Int) : a - b + (c - d) = a + c - (b + d) := by
  omega

theorem add_add_add_comm (a b c d : Int) : a + b + (c + d) = a + c + (b + d) := by
  rw [Int.add_assoc, Int.add_left_comm b, ← Int.add_assoc]

theorem scoreL_append (a b : List Trace) : Trace.scoreL (a ++ b) = Trace.scoreL a + Trace.scoreL b := by
  induction a with
  | nil => simp [Trace.scoreL]
  | cons t ts ih => simp [Trace.scoreL, ih, Int.add_assoc]

theorem scoreAL_append (a b : List (List String × Trace)) :
    Trace.scoreAL (a ++ b) = Trace.scoreAL a + Trace.scoreAL b := by
  induction a with
  | nil => simp [Trace.scoreAL]
  | cons t ts ih => obtain ⟨x, t⟩ := t; simp [Trace.scoreAL, ih, Int.add_assoc]

theorem sumW_cons (r : Res) (rs : List Res) : sumW (r :: rs) = r.w + sumW rs := by
  simp [sumW]

theorem sumW_eq_scoreL {rs : List Res} (h : ∀ k (hk : k < rs.length), rs[k].w = rs[k].tr.score) :
    sumW rs = Trace.scoreL (rs.map (·.tr)) := by
  induction rs with
  | nil => rfl
  | cons r rs ih =>
    rw [sumW_cons, List.map_cons, Trace.scoreL, show r.w = r.tr.score from h 0 (Nat.zero_lt_succ _),
      ih fun k hk => h (k + 1) (Nat.succ_lt_succ hk)]

theorem sumW_eq_zero {rs : List Res} (h : ∀ k (hk : k < rs.length), rs[k].w = 0) : sumW rs = 0 := by
  induction rs with
  | nil => rfl
  | cons r rs ih =>
    rw [sumW_cons, show r.w = 0 from h 0 (Nat.zero_lt_succ _), ih fun k hk => h (k + 1) (Nat.succ_lt_succ hk)]
    rfl

theorem sumW_sub {rs : List Res} {olds : List Trace} (hl : rs.length = olds.length)
    (h : ∀ j (h1 : j < rs.length) (h2 : j < olds.length), rs[j].w = rs[j].tr.score - olds[j].score) :
    sumW rs = Trace.scoreL (rs.map (·.tr)) - Trace.scoreL olds := by
  induction rs generalizing olds with
  | nil =>
    cases olds with
    | nil => rfl
    | cons _ _ => cases hl
  | cons r rs ih =>
    cases olds with
    | nil => cases hl
    | cons o olds =>
      rw [sumW_cons, List.map_cons, Trace.scoreL,
        show r.w = r.tr.score - o.score from h 0 (Nat.zero_lt_succ _) (Nat.zero_lt_succ _),
        ih (Nat.succ.inj hl) fun j h1 h2 => h (j + 1) (Nat.succ_lt_succ h1) (Nat.succ_lt_succ h2)]
      exact sub_add_sub ..

theorem lookupSub_eq_none_iff {l : List (List String × Trace)} {x : List String} :
    lookupSub l x = none ↔ x ∉ l.map (·.1) := by
  unfold lookupSub
  simp only [Option.map_eq_none_iff, List.find?_eq_none, List.mem_map, decide_eq_true_eq]
  exact ⟨fun h ⟨p, hp, hpx⟩ => h p hp hpx, fun h p hp hpx => h ⟨p, hp, hpx⟩⟩

theorem lookupSub_mem {l : List (List String × Trace)} {a : List String} {t : Trace}
    (h : lookupSub l a = some t) : (a, t) ∈ l := by
  obtain ⟨⟨k, t⟩, hf, rfl⟩ := Option.map_eq_some_iff.1 h
  cases (by simpa using List.find?_some hf : k = a)
  exact List.mem_of_find?_eq_some hf

theorem lookupSub_append_hit {pre suf : List (List String × Trace)} {a : List String} {t : Trace}
    (h : lookupSub pre a = none) : lookupSub (pre ++ (a, t) :: suf) a = some t := by
  unfold lookupSub at *
  simp only [Option.map_eq_none_iff] at h
  simp [List.find?_append, h]

theorem lookupSub_none_of_keys {a b : List (List String × Trace)} {x : List String}
    (hk : a.map (·.1) = b.map (·.1)) (h : lookupSub a x = none) : lookupSub b x = none := by
  rw [lookupSub_eq_none_iff] at *
  rwa [← hk]

theorem evalL_eq_mapM (env : List Val) (es : List Expr) : Expr.evalL env es = es.mapM (Expr.eval env) := by
  induction es with
  | nil => rfl
  | cons e es ih => rw [List.mapM_cons, Expr.evalL, ih]

end GenjaxVerif.GFI
