import GenjaxVerif.Model.Infer
namespace GenjaxVerif.Infer

/-- The interface laws of `Update(constraint).edit` with unchanged arguments that C27 relies
    on (they are the content of C05/C06 for the combinators; proved for `progGF` in Props/C27). -/
structure UpdateLawful {A T : Type} (p : GF A T) (ok : T → Prop) : Prop where
  weight : ∀ k tr c, ok tr → (p.update k tr c).2.1 = p.score (p.update k tr c).1 - p.score tr
  closed : ∀ k tr c, ok tr → ok (p.update k tr c).1

abbrev SiteRec := Addr × Int × Int × Option Key

def sumLp (l : List SiteRec) : Int := (l.map (fun s => s.2.2.1)).sum

theorem sumLp_append (a b : List SiteRec) : sumLp (a ++ b) = sumLp a + sumLp b := by
  rw [sumLp, List.map_append, List.sum_append_int]; rfl

theorem sumLp_cons (x : SiteRec) (l : List SiteRec) : sumLp (x :: l) = x.2.2.1 + sumLp l := rfl

/-- One step of `updSites`, whichever way the constraint falls. -/
theorem updSites_cons (c : Chm) (args : List Int) (s : Site) (rest : Prog) (o : SiteRec)
    (olds acc : List SiteRec) (w : Int) (d : Chm) :
    ∃ (x L : Int) (d' : Chm), updSites c args (s :: rest) (o :: olds) acc w d
      = updSites c args rest olds (acc ++ [(s.addr, x, L, Option.none)]) (w + (L - o.2.2.1)) d' := by
  rw [updSites]
  cases c.get s.addr with
  | none => exact ⟨_, _, _, rfl⟩
  | some v => exact ⟨_, _, _, rfl⟩

theorem updSites_spec (c : Chm) (args : List Int) (p : Prog) (olds acc : List SiteRec) (w : Int) (d : Chm)
    (h : olds.length = p.length) :
    ∃ news, news.length = p.length ∧ (updSites c args p olds acc w d).1 = acc ++ news ∧
      (updSites c args p olds acc w d).2.1 = w + (sumLp news - sumLp olds) := by
  induction p generalizing olds acc w d with
  | nil =>
    cases olds with
    | nil => exact ⟨[], rfl, (List.append_nil acc).symm, (Int.add_zero w).symm⟩
    | cons o os => cases h
  | cons s rest ih =>
    cases olds with
    | nil => cases h
    | cons o os =>
      obtain ⟨x, L, d', e⟩ := updSites_cons c args s rest o os acc w d
      obtain ⟨news, hl, hs, hw⟩ := ih os (acc ++ [(s.addr, x, L, Option.none)]) (w + (L - o.2.2.1)) d' (Nat.succ.inj h)
      refine ⟨(s.addr, x, L, Option.none) :: news, congrArg Nat.succ hl, ?_, ?_⟩
      · rw [e, hs, List.append_assoc]; rfl
      · rw [e, hw]
        simp only [sumLp_cons]
        omega

theorem get_cons (ya : Addr) (yv : Int) (ys : Chm) (a : Addr) :
    Chm.get ((ya, yv) :: ys) a = if a == ya then some yv else Chm.get ys a := by
  simp only [Chm.get, List.lookup]
  cases a == ya <;> rfl

theorem get_merge_left (c d : Chm) (a : Addr) (x : Int) (h : c.get a = some x) : (merge c d).get a = some x := by
  show (c ++ d).lookup a = some x
  rw [List.lookup_append, show c.lookup a = some x from h]
  rfl

theorem Target.get_filterToUnconstrained {A T : Type} (t : Target A T) (c : Chm) (a : Addr) (x : Int)
    (h : t.constraint.get a = some x) : (t.filterToUnconstrained c).get a = none := by
  -- `a` is a key of the constraint, so the complement of `selOf constraint` rejects it
  obtain ⟨p, hp, hk⟩ := List.lookup_isSome_iff.mp (Option.isSome_of_eq_some h)
  have ha : (selOf t.constraint).compl.mem a = false := by
    show ((t.constraint.map Prod.fst).contains a != !false) = false
    rw [List.contains_iff_mem.mpr (List.mem_map.mpr ⟨p, hp, (eq_of_beq hk).symm⟩)]
    rfl
  refine List.lookup_eq_none_iff.mpr fun q hq => bne_iff_ne.mpr fun e => ?_
  have := (List.mem_filter.mp hq).2
  rw [← e, ha] at this
  cases this

theorem getElem?_map_range {α : Type} (f : Nat → α) {i n : Nat} (h : i < n) :
    ((List.range n).map f)[i]? = some (f i) := by
  rw [List.getElem?_map, List.getElem?_range h]; rfl

/-- Of the model only the weight law of the one update performed is needed. -/
theorem rejuvenate_weight {A T QA U : Type} (v : Variant) (p : GF A T) (q : GF QA U)
    (argmap : Chm → QA) (k : Key) (tr : T) :
    let ptr := q.simulate (child k 1) (argmap (p.choices tr))
    let upd := p.update (child k 0) tr (q.choices ptr)
    upd.2.1 = p.score upd.1 - p.score tr →
    (rejuvenate v p q argmap k tr).2
      = p.score upd.1 + q.assess upd.2.2 (if v.rejuvFix then argmap (p.choices upd.1) else argmap upd.2.2)
        - p.score tr - q.score ptr := by
  simp only [rejuvenate]
  omega

end GenjaxVerif.Infer
