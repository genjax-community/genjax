import GenjaxVerif.Lemmas.GFITrace
/-! Updates that never draw a fresh trace: the side condition of the weight law of `Update` and of what an update
    leaves alone. -/
namespace GenjaxVerif.GFI
open GenjaxVerif

mutual
/-- `Safe ch p`: running an update of `p` with the "switch index changed" flag `ch` never takes
    `Switch.edit`'s fresh-trace path.  A scan forces the flag to true for its kernel. -/
def Safe : Bool → Prog → Prop
  | _, .dist _ => True
  | ch, .static b => SafeBody ch b
  | ch, .vmap p _ => Safe ch p
  | _, .scan p _ => Safe true p
  | ch, .switch ps => ch = false ∧ SafeL false ps
  | ch, .mask p => Safe ch p
  | ch, .dimap _ p _ => Safe ch p
def SafeL : Bool → List Prog → Prop
  | _, [] => True
  | ch, p :: ps => Safe ch p ∧ SafeL ch ps
def SafeBody : Bool → Body → Prop
  | _, .ret _ => True
  | ch, .bind _ p _ rest => Safe ch p ∧ SafeBody ch rest
end

theorem safeL_nth : ∀ {ps : List Prog} {k : Nat} {ch}, SafeL ch ps → ∀ {p}, ps[k]? = some p → Safe ch p := by
  intro ps
  induction ps with
  | nil => intro k ch _ p h; cases h
  | cons q ps ih =>
    intro k ch hs p h
    cases k with
    | zero => cases h; exact hs.1
    | succ k => exact ih hs.2 h

theorem safeBody_mem {ch} {b : Body} (hs : SafeBody ch b) : ∀ p ∈ Body.progs b, Safe ch p := by
  induction b using Body.ind with
  | ret e => exact fun _ h => nomatch h
  | bind addr q aes rest ih => exact fun p h => (List.mem_cons.1 h).elim (· ▸ hs.1) (ih hs.2 p)

theorem safe_elem {p q ch} (hq : IsVec p q) (h : Safe ch q) : Safe (elemChanged .upd q ch) p := by
  cases hq <;> simpa [Safe, elemChanged] using h

theorem run_switch_upd_safe {ds ps i r told} (h : run ds .upd (.switch ps) i = .ok r) (ho : i.old = some told)
    (hs : Shape (.switch ps) told) (hsafe : Safe i.changed (.switch ps)) :
    ∃ a idx osub p ba r', told = .switch a idx osub ∧ ps[idx]? = some p ∧ Shape p osub ∧ Safe false p ∧
      i.changed = false ∧ run ds .upd p { i with old := some osub, args := ba } = .ok r' ∧
      ⟨.switch i.args idx r'.tr, r'.w, r'.bwd, r'.bwdOk⟩ = r := by
  obtain ⟨a, idx, osub, ho'⟩ := run_switch_upd_old h
  cases ho.symm.trans ho'
  obtain ⟨hch, hsl⟩ := hsafe
  obtain ⟨ba, _, r', hr, rfl⟩ := (run_switch_upd_same ho hch).1 h
  obtain ⟨p, hp, hr, hsp⟩ := runNth_shape hr hs
  exact ⟨a, idx, osub, p, ba, r', rfl, hp, hsp, safeL_nth hsl hp, hch, hr, rfl⟩

end GenjaxVerif.GFI
