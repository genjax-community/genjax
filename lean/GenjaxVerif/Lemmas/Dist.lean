import GenjaxVerif.Model.Dist
import GenjaxVerif.Lemmas.Except
namespace GenjaxVerif.Dist

section ExceptSimp
variable {ε α β : Type}
@[simp] theorem bind_ok (x : α) (f : α → Except ε β) : (Except.ok x >>= f) = f x := rfl
@[simp] theorem bind_error (e : ε) (f : α → Except ε β) :
    ((Except.error e : Except ε α) >>= f) = Except.error e := rfl
@[simp] theorem map_ok (x : α) (f : α → β) : f <$> (Except.ok x : Except ε α) = Except.ok (f x) := rfl
@[simp] theorem map_error (e : ε) (f : α → β) :
    f <$> (Except.error e : Except ε α) = Except.error e := rfl
@[simp] theorem pure_ok (x : α) : (pure x : Except ε α) = Except.ok x := rfl

end ExceptSimp

@[simp] theorem LP.total_scalar (x : Int) : (LP.scalar x).total = x := rfl
@[simp] theorem LP.total_arr (xs : List Int) : (LP.arr xs).total = xs.sum := rfl

theorem LP.total_arr_append (xs ys : List Int) :
    (LP.arr (xs ++ ys)).total = (LP.arr xs).total + (LP.arr ys).total := by
  simp [List.sum_append]

section
variable {K A V : Type}

theorem estimateLogpdf_eq (d : Base K A V) (v : V) (a : A) :
    estimateLogpdf d v a = (d.lp v a).map LP.total := by
  unfold estimateLogpdf
  cases d.lp v a <;> rfl

/-- The right-hand side is the body of `Coherent`. -/
theorem estimateLogpdf_ok {d : Base K A V} {v : V} {a : A} {w : Int} :
    estimateLogpdf d v a = .ok w ↔ ∃ l, d.lp v a = .ok l ∧ w = l.total := by
  rw [estimateLogpdf_eq, map_eq_ok]
  exact exists_congr fun l => and_congr_right fun _ => eq_comm

theorem estimateLogpdf_error {d : Base K A V} {v : V} {a : A} {e : Err} :
    estimateLogpdf d v a = .error e ↔ d.lp v a = .error e := by
  rw [estimateLogpdf_eq, map_eq_error]

theorem randomWeighted_ok {d : Base K A V} {k : K} {a : A} {w : Int} {v : V} :
    randomWeighted d k a = .ok (w, v) ↔
      d.sample k a = .ok v ∧ ∃ l, d.lp v a = .ok l ∧ w = l.total := by
  rw [← estimateLogpdf_ok]
  constructor
  · intro h
    obtain ⟨v', hs, h⟩ := bind_eq_ok.1 h
    obtain ⟨w', hl, h⟩ := bind_eq_ok.1 h
    cases h
    exact ⟨hs, hl⟩
  · rintro ⟨hs, hl⟩
    exact bind_eq_ok.2 ⟨v, hs, bind_eq_ok.2 ⟨w, hl, rfl⟩⟩

/-- `simulate` is the base sampler followed by the summed base log-density of the sample. -/
theorem simulate_eq (d : Base K A V) (k : K) (a : A) :
    simulate d k a = d.sample k a >>= fun v => (d.lp v a).map fun l => ⟨a, v, l.total⟩ := by
  unfold simulate randomWeighted
  cases d.sample k a with
  | error e => rfl
  | ok v =>
    rw [bind_ok, bind_ok, estimateLogpdf_eq]
    cases d.lp v a <;> rfl

/-- Only this direction: an array flag also evaluates the other arm, which can add failures. -/
theorem flagCond_ok {β : Type} {f : Flag} {tf ff : Except Err β} {r : β}
    (h : flagCond f tf ff = .ok r) : (if f.val then tf else ff) = .ok r := by
  cases f with
  | conc b => cases b <;> exact h
  | dyn b =>
    obtain ⟨x, hx, h⟩ := bind_eq_ok.1 h
    obtain ⟨y, hy, h⟩ := bind_eq_ok.1 h
    cases h
    cases b
    · exact hy
    · exact hx

end

theorem lookup_nil (n : String) : List.lookup n ([] : Kw) = none := rfl

/-- Calling positionally with the fully bound parameter list binds to the same list. -/
theorem bindGo_full (ps : List (String × Option Int)) :
    ∀ (pos : List Int) (kw : Kw) (full : List Int),
      bindGo ps pos kw = .ok full → bindGo ps full [] = .ok full := by
  induction ps with
  | nil =>
    intro pos kw full h
    cases pos with
    | nil => cases h; rfl
    | cons x xs => cases h
  | cons p ps ih =>
    obtain ⟨n, dflt⟩ := p
    intro pos kw full h
    -- every successful arm puts one value in front of a recursive result
    have inv : ∀ (x : Int) (pos' : List Int),
        (do let r ← bindGo ps pos' kw; pure (x :: r) : Except Err (List Int)) = .ok full →
        bindGo ((n, dflt) :: ps) full [] = .ok full := by
      intro x pos' h
      obtain ⟨r, hr, h⟩ := bind_eq_ok.1 h
      cases h
      simp only [bindGo, List.lookup, ih pos' kw r hr, bind_ok, pure_ok]
    cases pos with
    | cons x xs =>
      simp only [bindGo] at h
      cases hl : List.lookup n kw with
      | some v => rw [hl] at h; cases h
      | none => rw [hl] at h; exact inv x xs h
    | nil =>
      simp only [bindGo] at h
      cases hl : List.lookup n kw with
      | some v => rw [hl] at h; exact inv v [] h
      | none =>
        rw [hl] at h
        cases dflt with
        | none => cases h
        | some v => exact inv v [] h

theorem bind_full {params : List (String × Option Int)} {pos : List Int} {kw : Kw} {full : List Int}
    (h : bind params pos kw = .ok full) : bind params full [] = .ok full := by
  unfold bind at h ⊢
  by_cases hc : kw.all (fun p => params.any (fun q => q.1 == p.1)) = true
  · rw [if_pos hc] at h
    simp only [List.all_nil, if_true]
    exact bindGo_full params pos kw full h
  · rw [if_neg hc] at h; cases h

theorem kwargle_ints (xs : List Int) : kwargle (xs.map .int) = .ok (xs.map .int, []) := by
  -- `kwargle` looks at two elements at most: `[]`, `[_]`, `[_, _]` and longer lists
  rcases xs with _ | ⟨_, _ | ⟨_, _ | _⟩⟩ <;> rfl

theorem asInts_map_int (xs : List Int) : asInts (xs.map PyArg.int) = .ok xs := by
  induction xs with
  | nil => rfl
  | cons x r ih => simp [asInts, ih]

end GenjaxVerif.Dist
