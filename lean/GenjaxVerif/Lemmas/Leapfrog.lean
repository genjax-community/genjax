import GenjaxVerif.Model.Leapfrog
import Mathlib.Tactic.Ring
/-!
  Helper lemmas for C28 (model H).  Every statement about `L` steps of a scan is `iterate_rel`
  applied to a one-step fact (`iterate_staleStep`, whose hypothesis speaks of the step number, has an
  induction of its own); the rest is list-vector algebra over a commutative ring,
  `gather` / `scatter` (selected vs. unselected coordinates), and the link between the
  trace-threading kernel `kernelTrace` and the abstract kernels on `(q, grad, p)`.
-/
namespace GenjaxVerif.Leapfrog

@[simp] theorem iterate_zero {α : Type} (f : α → α) (c : α) : iterate f 0 c = c := rfl
@[simp] theorem iterate_succ {α : Type} (f : α → α) (n : Nat) (c : α) :
    iterate f (n + 1) c = iterate f n (f c) := rfl

theorem iterate_rel {α β : Type} (Rel : α → β → Prop) {f : α → α} {g : β → β}
    (step : ∀ a b, Rel a b → Rel (f a) (g b)) (n : Nat) {a : α} {b : β} (h : Rel a b) :
    Rel (iterate f n a) (iterate g n b) := by
  induction n generalizing a b with
  | zero => exact h
  | succ n ih => exact ih (step a b h)

theorem iterate_inv {α : Type} (P : α → Prop) {f : α → α} (step : ∀ a, P a → P (f a)) (n : Nat)
    {a : α} (h : P a) : P (iterate f n a) := by
  induction n generalizing a with
  | zero => exact h
  | succ n ih => exact ih (step a h)

/-- `staleStep … G` and `leapfrogSpec` differ only in the gradient of the first half-step, so they run
    alike from `s` for as long as the gradient at the leapfrog positions is `G`. -/
theorem iterate_staleStep {R : Type} [Add R] [Mul R] (half eps : R) (g : List R → List R) (G : List R)
    (L : Nat) (s : List R × List R) (hg : ∀ i, i < L → g (iterate (leapfrogSpec half eps g) i s).1 = G) :
    iterate (staleStep half eps g G) L s = iterate (leapfrogSpec half eps g) L s := by
  induction L generalizing s with
  | zero => rfl
  | succ L ih =>
    have h0 : staleStep half eps g G s = leapfrogSpec half eps g s := hg 0 (Nat.succ_pos L) ▸ rfl
    rw [iterate_succ, iterate_succ, h0]
    exact ih _ fun i hi => hg (i + 1) (Nat.succ_lt_succ hi)

@[simp] theorem length_vadd {R : Type} [Add R] (a b : List R) :
    (vadd a b).length = min a.length b.length :=
  List.length_zipWith

@[simp] theorem length_smul {R : Type} [Mul R] (c : R) (a : List R) : (smul c a).length = a.length :=
  List.length_map _

section Algebra
variable {R : Type} [CommRing R]

@[simp] theorem length_vneg (a : List R) : (vneg a).length = a.length := List.length_map _

theorem vadd_vneg_vadd_cancel (a b : List R) (h : b.length = a.length) :
    vadd (vneg (vadd a b)) b = vneg a := by
  induction a generalizing b with
  | nil => rfl
  | cons x xs ih =>
    cases b with
    | nil => cases h
    | cons y ys => exact congrArg₂ List.cons (by ring) (ih ys (Nat.succ.inj h))

theorem vadd_smul_vneg_cancel (e : R) (a b : List R) (h : a.length = b.length) :
    vadd (vadd a (smul e b)) (smul e (vneg b)) = a := by
  induction a generalizing b with
  | nil => rfl
  | cons x xs ih =>
    cases b with
    | nil => cases h
    | cons y ys => exact congrArg₂ List.cons (by ring) (ih ys (Nat.succ.inj h))

/-- `mul` enters `assess_momenta` only through its square, so `mul = -1` and `mul = 1` assess alike. -/
theorem assessMomenta_eq (half lognorm mul : R) (p : List R) :
    assessMomenta half lognorm mul p = p.length * lognorm - half * (mul * mul) * sqnorm p := by
  induction p with
  | nil => simp [assessMomenta, sqnorm, vsum]
  | cons v p ih =>
    simp only [assessMomenta, sqnorm, vsum, normalScore, List.map_cons, List.length_cons,
      Nat.cast_succ] at ih ⊢
    rw [ih]
    ring

end Algebra

section Coordinates
variable {R : Type}

/-- The one equation of `gather` that does not hold by unfolding (the match looks at `b` first). -/
theorem gather_cons_nil (b : Bool) (m : List Bool) : gather (b :: m) ([] : List R) = [] := by
  cases b <;> rfl

@[simp] theorem length_scatter (m : List Bool) (x q : List R) : (scatter m x q).length = x.length := by
  fun_induction scatter m x q <;> simp only [List.length_cons, *]

theorem length_gather_congr (m : List Bool) (x y : List R) (h : x.length = y.length) :
    (gather m x).length = (gather m y).length := by
  induction m generalizing x y with
  | nil => rfl
  | cons b m ih =>
    cases x with
    | nil => rw [List.eq_nil_of_length_eq_zero h.symm]
    | cons x xs =>
      cases y with
      | nil => cases h
      | cons y ys =>
        cases b
        · exact ih xs ys (Nat.succ.inj h)
        · exact congrArg Nat.succ (ih xs ys (Nat.succ.inj h))

theorem scatter_gather (m : List Bool) (x : List R) : scatter m x (gather m x) = x := by
  induction m generalizing x with
  | nil => rfl
  | cons b m ih =>
    cases x with
    | nil => cases b <;> rfl
    | cons x xs => cases b <;> exact congrArg (x :: ·) (ih xs)

theorem gather_scatter (m : List Bool) (x q : List R) (h : q.length = (gather m x).length) :
    gather m (scatter m x q) = q := by
  fun_induction scatter m x q with
  | case1 m x xs v q ih => exact congrArg (v :: ·) (ih (Nat.succ.inj h))
  | case2 m x xs ih => cases h
  | case3 m x xs q ih => exact ih h
  | case4 xs q => exact (List.eq_nil_of_length_eq_zero h).symm
  | case5 b m q => rw [gather_cons_nil] at h ⊢; exact (List.eq_nil_of_length_eq_zero h).symm

theorem scatter_scatter (m : List Bool) (x q q' : List R) (h : q'.length = (gather m x).length) :
    scatter m (scatter m x q) q' = scatter m x q' := by
  fun_induction scatter m x q generalizing q' with
  | case1 m x xs v q ih =>
    cases q' with
    | nil => cases h
    | cons v' q' => exact congrArg (v' :: ·) (ih q' (Nat.succ.inj h))
  | case2 m x xs ih =>
    cases q' with
    | nil => cases h
    | cons v' q' => exact congrArg (v' :: ·) (ih q' (Nat.succ.inj h))
  | case3 m x xs q ih => exact congrArg (x :: ·) (ih q' h)
  | case4 xs q => rfl
  | case5 b m q => rfl

theorem gather_not_scatter (m : List Bool) (x q : List R) :
    gather (m.map (!·)) (scatter m x q) = gather (m.map (!·)) x := by
  fun_induction scatter m x q with
  | case1 m x xs v q ih => exact ih
  | case2 m x xs ih => exact ih
  | case3 m x xs q ih => exact congrArg (x :: ·) ih
  | case4 xs q => rfl
  | case5 b m q => rfl

end Coordinates

section Link
variable {R : Type} [Add R] [Mul R]

/-- The abstract kernel selected by the `fresh` flag of `kernelTrace`. -/
def kern (fresh : Bool) (half eps : R) (g : List R → List R) : Carry R → Carry R :=
  if fresh then kernelRepaired half eps g else kernelAsWritten half eps g

def Carry.WF (n : Nat) (c : Carry R) : Prop := c.q.length = n ∧ c.grad.length = n ∧ c.p.length = n

def embed (mask : List Bool) (x0 : List R) (c : Carry R) : TCarry R :=
  { x := scatter mask x0 c.q, q := c.q, grad := c.grad, p := c.p }

theorem kern_wf (fresh : Bool) (half eps : R) (g : List R → List R) {n : Nat}
    (hg : ∀ q, (g q).length = n) {c : Carry R} (hc : c.WF n) : (kern fresh half eps g c).WF n := by
  obtain ⟨hq, hgr, hp⟩ := hc
  have h : (kernelRepaired half eps g c).WF n := by
    simp only [kernelRepaired, Carry.WF, length_vadd, length_smul, hq, hgr, hp, hg, Nat.min_self, and_self]
  cases fresh
  · exact ⟨h.1, hgr, h.2.2⟩  -- as written: same `q` and `p`, the old gradient kept
  · exact h

theorem kernelTrace_step (fresh : Bool) (half eps : R) (t : Target R) (mask : List Bool) (x0 : List R)
    (c : Carry R) (hc : c.WF (gather mask x0).length) :
    kernelTrace fresh half eps t mask (embed mask x0 c)
        = embed mask x0 (kern fresh half eps (selOracle t mask x0) c) := by
  obtain ⟨hq, hg, hp⟩ := hc
  have hq1 : (vadd c.q (smul eps (vadd c.p (smul (eps * half) c.grad)))).length
      = (gather mask x0).length := by
    simp only [length_vadd, length_smul, hq, hg, hp, Nat.min_self]
  -- the new `q` has the right length, so writing it over the old one and reading it back are exact
  simp only [kernelTrace, embed, selectionGradient, scatter_scatter _ _ _ _ hq1, gather_scatter _ _ _ hq1]
  -- what is left is `kern` unfolded, for either flag
  cases fresh <;> rfl

/-- The trace-threading scan that `hmcEdit` runs is the abstract scan, embedded: the trace component
    is always the initial choices with the current `q` written into the selected coordinates. -/
theorem kernelTrace_iterate (fresh : Bool) (half eps : R) (t : Target R) (mask : List Bool) (L : Nat)
    (x0 p0 : List R) (hgrad : ∀ x, (t.grad x).length = x.length)
    (hp : p0.length = (gather mask x0).length) :
    let r := iterate (kern fresh half eps (selOracle t mask x0)) L
      (initCarry (selOracle t mask x0) (gather mask x0) p0)
    iterate (kernelTrace fresh half eps t mask) L
        { x := x0, q := gather mask x0, grad := gather mask (t.grad x0), p := p0 }
      = embed mask x0 r ∧ r.WF (gather mask x0).length := by
  have hsel : ∀ q, (selOracle t mask x0 q).length = (gather mask x0).length := fun q =>
    length_gather_congr mask _ _ ((hgrad _).trans (length_scatter mask x0 q))
  refine iterate_rel (fun tc c => tc = embed mask x0 c ∧ c.WF (gather mask x0).length) ?_ L
    ⟨?_, rfl, hsel _, hp⟩
  · rintro _ c ⟨rfl, hc⟩
    exact ⟨kernelTrace_step fresh half eps t mask x0 c hc, kern_wf fresh half eps _ hsel hc⟩
  · simp only [embed, initCarry, selOracle, scatter_gather]

end Link

end GenjaxVerif.Leapfrog
