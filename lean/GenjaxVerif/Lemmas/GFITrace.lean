import GenjaxVerif.Lemmas.GFIRun
/-! What every returned trace looks like: it has the structure its program produces (`Shape`), records the arguments
    it was run with, and its score is the sum of the log-densities of its live primitive choices. -/
namespace GenjaxVerif.GFI
open GenjaxVerif

mutual
def Shape : Prog → Trace → Prop
  | .dist _, .dist _ _ _ _ => True
  | .static b, .static _ _ subs => ShapeBody b subs
  | .vmap p _, .vec _ _ elems => ∀ t ∈ elems, Shape p t
  | .scan p _, .vec _ _ elems => ∀ t ∈ elems, Shape p t
  | .switch ps, .switch _ idx sub => ShapeNth ps idx sub
  | .mask p, .mask _ inner => Shape p inner
  | .dimap _ p _, .dimap _ _ inner => Shape p inner
  | _, _ => False
def ShapeNth : List Prog → Nat → Trace → Prop
  | [], _, _ => False
  | p :: _, 0, t => Shape p t
  | _ :: ps, k + 1, t => ShapeNth ps k t
/-- The recorded subtraces are exactly the body's `trace` statements, in order. -/
def ShapeBody : Body → List (List String × Trace) → Prop
  | .ret _, subs => subs = []
  | .bind addr p _ rest, (a, t) :: subs => a = addr ∧ Shape p t ∧ ShapeBody rest subs
  | .bind _ _ _ _, [] => False
end

theorem shapeNth_iff {ps : List Prog} {k t} : ShapeNth ps k t ↔ ∃ p, ps[k]? = some p ∧ Shape p t := by
  induction ps generalizing k with
  | nil => simp [ShapeNth]
  | cons p ps ih =>
    cases k with
    | zero => simp [ShapeNth]
    | succ k => simp only [ShapeNth, List.getElem?_cons_succ]; exact ih

theorem runNth_shape {ds m ps k i r t} (h : runNth ds m ps k i = .ok r) (hs : ShapeNth ps k t) :
    ∃ p, ps[k]? = some p ∧ run ds m p i = .ok r ∧ Shape p t := by
  obtain ⟨p, hp, hr⟩ := runNth_ok.1 h
  obtain ⟨p', hp', hsp⟩ := shapeNth_iff.1 hs
  cases hp.symm.trans hp'
  exact ⟨p, hp, hr, hsp⟩

theorem shapeBody_bind {addr p aes rest subs} : ShapeBody (.bind addr p aes rest) subs ↔
    ∃ t subs', subs = (addr, t) :: subs' ∧ Shape p t ∧ ShapeBody rest subs' := by
  cases subs with
  | nil => exact ⟨False.elim, by rintro ⟨_, _, h, _⟩; cases h⟩
  | cons x subs' =>
    obtain ⟨a, t⟩ := x
    constructor
    · rintro ⟨rfl, hp, hr⟩; exact ⟨t, subs', rfl, hp, hr⟩
    · rintro ⟨_, _, h, hp, hr⟩; cases h; exact ⟨rfl, hp, hr⟩

theorem shape_vec {p q a rt es} (hq : IsVec p q) : Shape q (.vec a rt es) ↔ ∀ e ∈ es, Shape p e := by
  cases hq <;> simp only [Shape]

theorem shape_vec_inv {p q t} (hq : IsVec p q) (h : Shape q t) : ∃ a rt es, t = .vec a rt es := by
  cases hq <;> cases t <;> simp only [Shape] at h <;> exact ⟨_, _, _, rfl⟩

theorem leaf_form {ds m d i r} (h : leaf ds m d i = .ok r) : ∃ v, r.tr = .dist d i.args v (ds.lp d v i.args) := by
  cases m
  case sim => cases leaf_sim.symm.trans h; exact ⟨_, rfl⟩
  case assess => obtain ⟨v, _, rfl⟩ := leaf_assess.1 h; exact ⟨v, rfl⟩
  case gen => cases leaf_gen.symm.trans h; cases validValue i.c <;> exact ⟨_, rfl⟩
  case upd =>
    obtain ⟨_, _, _, _, ho⟩ := leaf_edit_old (.inl rfl) h
    cases (leaf_upd ho).symm.trans h; exact ⟨_, rfl⟩
  case regen =>
    obtain ⟨_, _, _, _, ho⟩ := leaf_edit_old (.inr rfl) h
    cases (leaf_regen ho).symm.trans h; cases i.sel.check <;> exact ⟨_, rfl⟩

theorem runBody_shape {ds m i olds} (b : Body) {env st st' v}
    (hP : ∀ p ∈ Body.progs b, ∀ i r, run ds m p i = .ok r → Shape p r.tr)
    (h : runBody ds m b i olds env st = .ok (st', v)) : ∃ suf, st'.subs = st.subs ++ suf ∧ ShapeBody b suf := by
  induction b using Body.ind generalizing env st with
  | ret e =>
    obtain ⟨_, rfl⟩ := runBody_ret.1 h
    exact ⟨[], (List.append_nil _).symm, rfl⟩
  | bind addr p aes rest ih =>
    obtain ⟨a, _, i', _, r, hr, h'⟩ := runBody_bind.1 h
    obtain ⟨suf, h1, h2⟩ := ih (fun q hq => hP q (List.mem_cons_of_mem _ hq)) h'
    exact ⟨(addr, r.tr) :: suf, by rw [h1, bindOut, List.append_assoc]; rfl, rfl, hP p (List.mem_cons_self ..) _ _ hr, h2⟩

theorem run_shape (ds : DistSem) : ∀ (m : Mode) (p : Prog) (i : In) (r : Res), run ds m p i = .ok r → Shape p r.tr := by
  intro m p i r h
  induction p using Prog.ind generalizing m i r with
  | dist d =>
    obtain ⟨v, hv⟩ := leaf_form h
    rw [hv]
    trivial
  | static b ih =>
    obtain ⟨env, _, olds, _, st, v, hb, rfl⟩ := run_static.1 h
    obtain ⟨suf, h1, h2⟩ := runBody_shape b (fun p hp => ih p hp m) hb
    rw [Shape, h1]
    exact h2
  | vec p q hq ih =>
    obtain ⟨ret, rs, rfl, _, hel⟩ := run_vec hq h
    refine (shape_vec hq).2 fun e he => ?_
    obtain ⟨r, hr, rfl⟩ := List.mem_map.1 he
    obtain ⟨k, hk, rfl⟩ := List.mem_iff_getElem.1 hr
    obtain ⟨ik, _, hr⟩ := hel k hk
    exact ih m _ _ hr
  | switch ps ih =>
    obtain ⟨idx, ba, p, i', r', _, hp, hr, _, _, htr⟩ := run_switch_form h
    exact htr ▸ shapeNth_iff.2 ⟨p, hp, ih p (List.mem_of_getElem? hp) m _ _ hr⟩
  | mask p ih =>
    obtain ⟨check, iargs, i', r', _, hr, _, _, htr⟩ := run_mask_form h
    exact htr ▸ ih m _ _ hr
  | dimap pre p post ih =>
    obtain ⟨as, _, ia, _, o, _, r', hr, rv, _, rfl⟩ := run_dimap.1 h
    exact ih m _ _ hr

theorem run_shape_nth (ds : DistSem) : ∀ (m : Mode) (ps : List Prog) (k : Nat) (i : In) (r : Res),
    runNth ds m ps k i = .ok r → ShapeNth ps k r.tr := by
  intro m _ _ i r h
  obtain ⟨p, hp, hr⟩ := runNth_ok.1 h
  exact shapeNth_iff.2 ⟨p, hp, run_shape ds m p i r hr⟩

/-- `trace.get_args()` is what the operation was called with (for update: the NEW arguments). -/
theorem run_args (ds : DistSem) : ∀ (m : Mode) (p : Prog) (i : In) (r : Res), run ds m p i = .ok r → r.tr.args = i.args := by
  intro m p i r h
  induction p using Prog.ind generalizing i r with
  | dist d =>
    obtain ⟨v, hv⟩ := leaf_form h
    rw [hv]; rfl
  | static b _ => obtain ⟨_, _, _, _, _, _, _, rfl⟩ := run_static.1 h; rfl
  | vec p q hq _ => obtain ⟨_, _, rfl, _⟩ := run_vec hq h; rfl
  | switch ps _ => obtain ⟨_, _, _, _, _, _, _, _, _, _, htr⟩ := run_switch_form h; rw [htr]; rfl
  | mask p ih =>
    obtain ⟨check, iargs, i', r', hma, hr, hia, _, htr⟩ := run_mask_form h
    rw [htr]
    simp only [Trace.args, ih i' r' hr, hia]
    exact (maskArgs_ok.1 hma).symm
  | dimap pre p post _ => obtain ⟨_, _, _, _, _, _, _, _, _, _, rfl⟩ := run_dimap.1 h; rfl

/-- One primitive random choice of a trace; `live`: not under a False mask flag. -/
structure Site where
  path : Path
  d : Nat
  args : Val
  v : Int
  lp : Int
  live : Bool

def Site.pre (ks : Path) (s : Site) : Site := { s with path := ks ++ s.path }
def Site.masked (f : Bool) (s : Site) : Site := { s with live := s.live && f }

mutual
/-- The primitive choices of a trace, in execution order, under their full addresses. -/
def sites : Trace → List Site
  | .dist d a v lp => [⟨[], d, a, v, lp, true⟩]
  | .static _ _ subs => sitesAL subs
  | .vec _ _ elems => sitesL 0 elems
  | .switch _ _ sub => sites sub
  | .mask f inner => (sites inner).map (Site.masked f)
  | .dimap _ _ inner => sites inner
def sitesL (k : Nat) : List Trace → List Site
  | [] => []
  | t :: ts => (sites t).map (Site.pre [.i k]) ++ sitesL (k + 1) ts
def sitesAL : List (List String × Trace) → List Site
  | [] => []
  | (a, t) :: ts => (sites t).map (Site.pre (a.map Comp.s)) ++ sitesAL ts
end

def liveSum (ss : List Site) : Int := (ss.map fun s => if s.live then s.lp else 0).sum

theorem liveSum_append (a b : List Site) : liveSum (a ++ b) = liveSum a + liveSum b := by
  simp [liveSum]

theorem liveSum_pre (ks : Path) (ss : List Site) : liveSum (ss.map (Site.pre ks)) = liveSum ss := by
  induction ss with
  | nil => rfl
  | cons s ss ih => simp only [liveSum, List.map_cons, List.sum_cons] at ih ⊢; rw [ih]; rfl

theorem liveSum_masked (f : Bool) (ss : List Site) :
    liveSum (ss.map (Site.masked f)) = if f then liveSum ss else 0 := by
  induction ss with
  | nil => cases f <;> rfl
  | cons s ss ih =>
    simp only [liveSum, List.map_cons, List.sum_cons] at ih ⊢
    rw [ih]
    cases f <;> simp [Site.masked]

mutual
theorem score_eq_liveSum : ∀ (t : Trace), t.score = liveSum (sites t)
  | .dist _ _ _ lp => by simp [Trace.score, sites, liveSum]
  | .static _ _ subs => by simp only [Trace.score, sites]; exact scoreAL_eq_liveSum subs
  | .vec _ _ elems => by simp only [Trace.score, sites]; exact scoreL_eq_liveSum 0 elems
  | .switch _ _ sub => by simp only [Trace.score, sites]; exact score_eq_liveSum sub
  | .mask f inner => by
    simp only [Trace.score, sites, liveSum_masked, score_eq_liveSum inner]
  | .dimap _ _ inner => by simp only [Trace.score, sites]; exact score_eq_liveSum inner
theorem scoreL_eq_liveSum : ∀ (k : Nat) (ts : List Trace), Trace.scoreL ts = liveSum (sitesL k ts)
  | _, [] => by simp [Trace.scoreL, sitesL, liveSum]
  | k, t :: ts => by
    simp only [Trace.scoreL, sitesL, liveSum_append, liveSum_pre, score_eq_liveSum t, scoreL_eq_liveSum (k + 1) ts]
theorem scoreAL_eq_liveSum : ∀ (subs : List (List String × Trace)), Trace.scoreAL subs = liveSum (sitesAL subs)
  | [] => by simp [Trace.scoreAL, sitesAL, liveSum]
  | (a, t) :: ts => by
    simp only [Trace.scoreAL, sitesAL, liveSum_append, liveSum_pre, score_eq_liveSum t, scoreAL_eq_liveSum ts]
end

end GenjaxVerif.GFI
