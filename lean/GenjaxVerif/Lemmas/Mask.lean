import GenjaxVerif.Model.Mask
import GenjaxVerif.Lemmas.Except
/-! Lemmas for model B.  A flag is a truth value with a staging mode: every `FlagOp` acts on the two
    components separately (`val_*`, `isConc_*`) and they determine the flag (`eq_of_val_isConc`), so
    an identity between flags is a pair of Boolean identities. -/
namespace GenjaxVerif.MaskModel

namespace Flag

@[simp] theorem val_and (f g : Flag) : (Flag.and f g).val = (f.val && g.val) := by
  cases f <;> cases g <;> rfl
@[simp] theorem val_or (f g : Flag) : (Flag.or f g).val = (f.val || g.val) := by
  cases f <;> cases g <;> rfl
@[simp] theorem val_xor (f g : Flag) : (Flag.xor f g).val = (f.val ^^ g.val) := by
  cases f <;> cases g <;> rfl
@[simp] theorem val_not (f : Flag) : (Flag.not f).val = !f.val := by
  cases f with
  | conc b => cases b <;> rfl
  | dyn b => rfl

@[simp] theorem isConc_and (f g : Flag) : (Flag.and f g).isConc = (f.isConc && g.isConc) := by
  cases f <;> cases g <;> rfl
@[simp] theorem isConc_or (f g : Flag) : (Flag.or f g).isConc = (f.isConc && g.isConc) := by
  cases f <;> cases g <;> rfl
@[simp] theorem isConc_xor (f g : Flag) : (Flag.xor f g).isConc = (f.isConc && g.isConc) := by
  cases f <;> cases g <;> rfl
@[simp] theorem isConc_not (f : Flag) : (Flag.not f).isConc = f.isConc := by
  cases f with
  | conc b => cases b <;> rfl
  | dyn b => rfl

theorem eq_of_val_isConc {f g : Flag} (h1 : f.val = g.val) (h2 : f.isConc = g.isConc) : f = g := by
  cases f <;> cases g <;> simp_all [val, isConc]

theorem not_not (f : Flag) : f.not.not = f :=
  eq_of_val_isConc (by simp only [val_not, Bool.not_not]) (by simp only [isConc_not])

end Flag

theorem condF_sc {α β} [Shaped β] (f : Flag) (tf ff : α → β) (a : α) :
    condF (.sc f) tf ff a = whereF f (tf a) (ff a) := by
  cases f with
  | conc b => cases b <;> rfl
  | dyn b => rfl

namespace Mask
variable {α : Type}

theorem orIdx_eq (f g : Flag) :
    orIdx f g = if f.val then 0 else if g.val then 1 else -1 := by
  simp only [orIdx, Flag.toInt, Flag.val_and, Flag.val_not]
  cases f.val <;> cases g.val <;> rfl

@[simp] theorem pick_zero (x y : α) : pick 0 x y = x := rfl
@[simp] theorem pick_one (x y : α) : pick 1 x y = y := rfl
@[simp] theorem pick_neg_one (x y : α) : pick (-1) x y = y := rfl

theorem pick_orIdx (f g : Flag) (x y : α) : pick (orIdx f g) x y = if f.val then x else y := by
  rw [orIdx_eq]
  cases f.val <;> cases g.val <;> rfl

theorem treeChoose_two (i : Int) (x y : α) : treeChoose (.dyn i) [x, y] = .ok (pick i x y) := rfl

def xorObs : Option α → Option α → Option α
  | some x, Option.none => some x
  | Option.none, some y => some y
  | _, _ => Option.none

theorem obs_xor_arm (f g : Flag) (x y : α) :
    obs ⟨pick (orIdx f g) x y, Flag.xor f g⟩ = xorObs (obs ⟨x, f⟩) (obs ⟨y, g⟩) := by
  simp only [obs, pick_orIdx, Flag.val_xor]
  cases f.val <;> cases g.val <;> rfl

theorem obs_or (a b : Mask α) : (Mask.or a b).obs = (a.obs).or b.obs := by
  obtain ⟨va, fa⟩ := a
  obtain ⟨vb, fb⟩ := b
  cases fa with
  | conc x => cases x <;> rfl
  | dyn x =>
    simp only [Mask.or, Mask.obs, pick_orIdx]
    cases x <;> cases fb.val <;> rfl

theorem obs_xor (a b : Mask α) : (Mask.xor a b).obs = xorObs a.obs b.obs := by
  obtain ⟨va, fa⟩ := a
  obtain ⟨vb, fb⟩ := b
  cases fa with
  | conc x => cases fb with
    | conc y => cases x <;> cases y <;> rfl
    | dyn y => cases x <;> exact obs_xor_arm _ _ va vb
  | dyn x => cases fb <;> exact obs_xor_arm _ _ va vb

/-- The flag says whether there is an observation, so the flag tables (`flag_or`, `flag_xor`) follow from the
    observation tables. -/
theorem isSome_obs (m : Mask α) : m.obs.isSome = m.flag.val := by
  unfold obs
  cases m.flag.val <;> rfl

theorem flag_or (a b : Mask α) : (Mask.or a b).flag.val = (a.flag.val || b.flag.val) := by
  rw [← isSome_obs, obs_or, Option.isSome_or, isSome_obs, isSome_obs]

theorem flag_xor (a b : Mask α) : (Mask.xor a b).flag.val = (a.flag.val ^^ b.flag.val) := by
  rw [← isSome_obs, obs_xor, ← isSome_obs a, ← isSome_obs b]
  cases a.obs <;> cases b.obs <;> rfl

theorem obs_build_mask (m : Mask α) (f : Flag) :
    (build (.mask m) f).obs = if f.val then m.obs else Option.none := by
  obtain ⟨v, g⟩ := m
  simp only [build, obs, Flag.val_and]
  cases f.val <;> cases g.val <;> rfl

theorem obs_flatten (m : Mask α) : (flatten m).obs = m.obs := by
  obtain ⟨v, f⟩ := m
  cases f with
  | conc b => cases b <;> rfl
  | dyn b => rfl

theorem obs_congr {a a' : Mask α} (hv : a.value = a'.value) (hf : a.flag.val = a'.flag.val) :
    a.obs = a'.obs := by
  simp [obs, hv, hf]

end Mask

theorem pyMod_eq_emod (i : Int) (n : Nat) : pyMod i n = i % (n : Int) :=
  Int.fmod_eq_emod_of_nonneg i (Int.natCast_nonneg n)

theorem emod_toNat_lt (i : Int) {n : Nat} (hn : 0 < n) : (i % (n : Int)).toNat < n := by
  have hn' : (0 : Int) < n := Int.natCast_pos.2 hn
  exact (Int.toNat_lt (Int.emod_nonneg i (Int.ne_of_gt hn'))).2 (Int.emod_lt_of_pos i hn')

/-- The staging mode of the index never matters: Python's `%` and `mode="wrap"` agree. -/
theorem treeChoose_conc {α} (i : Int) (vs : List α) : treeChoose (.conc i) vs = treeChoose (.dyn i) vs := by
  cases vs with
  | nil => rfl
  | cons v rest => simp only [treeChoose, pyMod_eq_emod]

theorem treeChoose_eq {α} (idx : Idx) (vs : List α) (h : vs ≠ []) :
    treeChoose idx vs =
      .ok (vs[(idx.val % (vs.length : Int)).toNat]'(emod_toNat_lt _ (List.length_pos_iff.mpr h))) := by
  have hd : ∀ i : Int, treeChoose (.dyn i) vs =
      .ok (vs[(i % (vs.length : Int)).toNat]'(emod_toNat_lt _ (List.length_pos_iff.mpr h))) := by
    intro i
    cases vs with
    | nil => exact absurd rfl h
    | cons v0 rest =>
      simp only [treeChoose]
      rw [List.getD_eq_getElem?_getD, List.getElem?_eq_getElem (emod_toNat_lt i (List.length_pos_iff.mpr h))]
      rfl
  cases idx with
  | conc i => exact (treeChoose_conc i vs).trans (hd i)
  | dyn i => exact hd i

theorem mapM_ok_length {α β ε} (f : α → Except ε β) (ps : List α) (o : List β)
    (h : ps.mapM f = .ok o) : o.length = ps.length := by
  induction ps generalizing o with
  | nil => cases h; rfl
  | cons p ps ih =>
    rw [List.mapM_cons] at h
    obtain ⟨v, _, h⟩ := bind_eq_ok.1 h
    obtain ⟨r, hr, h⟩ := bind_eq_ok.1 h
    cases h
    exact congrArg (· + 1) (ih r hr)

theorem DType.join_rank_left (x y : DType) : x.rank ≤ (x.join y).rank := by
  unfold DType.join
  split
  · assumption
  · exact Nat.le_refl _
theorem DType.join_rank_right (x y : DType) : y.rank ≤ (x.join y).rank := by
  unfold DType.join
  split
  · exact Nat.le_refl _
  · next h => exact Nat.le_of_not_le h
theorem DType.join_eq (x y : DType) : x.join y = x ∨ x.join y = y := by
  unfold DType.join; split <;> simp

theorem foldl_join_ge (vs : List Leaf) (d : DType) :
    d.rank ≤ (vs.foldl (fun d l => d.join l.dt) d).rank ∧
    ∀ l ∈ vs, l.dt.rank ≤ (vs.foldl (fun d l => d.join l.dt) d).rank := by
  induction vs generalizing d with
  | nil => simp
  | cons v rest ih =>
    simp only [List.foldl_cons, List.mem_cons]
    have h := ih (d.join v.dt)
    refine ⟨Nat.le_trans (DType.join_rank_left d v.dt) h.1, ?_⟩
    intro l hl
    cases hl with
    | inl e => subst e; exact Nat.le_trans (DType.join_rank_right d l.dt) h.1
    | inr hm => exact h.2 l hm

theorem foldl_join_mem (vs : List Leaf) (d : DType) :
    (vs.foldl (fun d l => d.join l.dt) d) = d ∨
    ∃ l ∈ vs, (vs.foldl (fun d l => d.join l.dt) d) = l.dt := by
  induction vs generalizing d with
  | nil => simp
  | cons v rest ih =>
    simp only [List.foldl_cons, List.mem_cons]
    cases ih (d.join v.dt) with
    | inl h =>
      cases DType.join_eq d v.dt with
      | inl e => left; rw [h, e]
      | inr e => right; exact ⟨v, Or.inl rfl, by rw [h, e]⟩
    | inr h =>
      obtain ⟨l, hl, e⟩ := h
      right; exact ⟨l, Or.inr hl, e⟩

theorem getElem?_zip_range {β} (l : List β) (j : Nat) :
    (List.zip (List.range l.length) l)[j]? = l[j]?.map (j, ·) := by
  rw [List.zip_eq_zipWith, List.getElem?_zipWith]
  by_cases hj : j < l.length
  · rw [List.getElem?_range hj, List.getElem?_eq_getElem hj]; rfl
  · rw [List.getElem?_eq_none (Nat.le_of_not_lt hj), List.getElem?_eq_none (by simpa using hj)]; rfl

theorem clamp_lt (i : Int) {n : Nat} (hn : 0 < n) : clamp i n < n := by
  unfold clamp
  split
  · exact hn
  · rename_i h0
    split
    · exact Nat.sub_lt hn Nat.one_pos
    · rename_i h1
      exact (Int.toNat_lt (Int.not_lt.1 h0)).2 (Int.not_le.1 h1)

theorem zipWith_assoc {α β γ δ ε ζ} (f : δ → γ → ε) (g : α → β → δ) (f' : α → ζ → ε) (g' : β → γ → ζ)
    (h : ∀ a b c, f (g a b) c = f' a (g' b c)) (as : List α) (bs : List β) (cs : List γ) :
    List.zipWith f (List.zipWith g as bs) cs = List.zipWith f' as (List.zipWith g' bs cs) := by
  induction as generalizing bs cs with
  | nil => rfl
  | cons a as ih =>
    cases bs with
    | nil => rfl
    | cons b bs =>
      cases cs with
      | nil => rfl
      | cons c cs => exact congr (congrArg _ (h a b c)) (ih bs cs)

namespace VMask
variable {α : Type}

theorem pickV_orIdxV_self (fa fb : List Bool) :
    pickV (orIdxV fa fb) fa fb = List.zipWith (· || ·) fa fb := by
  induction fa generalizing fb with
  | nil => rfl
  | cons f fs ih =>
    cases fb with
    | nil => rfl
    | cons g gs =>
      simp only [pickV, orIdxV, List.zipWith_cons_cons, List.zip_cons_cons] at ih ⊢
      rw [ih gs, Mask.pick_orIdx]
      cases f <;> rfl

/-- A vectorised operation that picks its payload with `_or_idx` and combines the flags with `G` is, position by
    position, the scalar operation on traced flags (`|` with `G = (· || ·)`, `^` with `G = (· ^^ ·)`). -/
theorem toMasks_pick (op : Mask α → Mask α → Mask α) (G : Bool → Bool → Bool)
    (h : ∀ x y f g, op (elt x f) (elt y g) = elt (Mask.pick (Mask.orIdx (.dyn f) (.dyn g)) x y) (G f g))
    (va vb : List α) (fa fb : List Bool) :
    List.zipWith elt (pickV (orIdxV fa fb) va vb) (List.zipWith G fa fb) =
      List.zipWith op (List.zipWith elt va fa) (List.zipWith elt vb fb) := by
  induction va generalizing vb fa fb with
  | nil => simp only [pickV, List.zip_nil_left, List.zipWith_nil_right, List.zipWith_nil_left]
  | cons x xs ih =>
    cases vb with
    | nil => simp only [pickV, List.zip_nil_right, List.zipWith_nil_right, List.zipWith_nil_left]
    | cons y ys =>
      cases fa with
      | nil => simp only [orIdxV, pickV, List.zipWith_nil_right, List.zipWith_nil_left]
      | cons f fs =>
        cases fb with
        | nil => simp only [orIdxV, pickV, List.zipWith_nil_right, List.zipWith_nil_left]
        | cons g gs => exact (congrArg (_ :: ·) (ih ys fs gs)).trans (congrArg (· :: _) (h x y f g).symm)

theorem map_obs_zipWith (f : Mask α → Mask α → Mask α) (g : Option α → Option α → Option α)
    (h : ∀ x y, (f x y).obs = g x.obs y.obs) (l1 l2 : List (Mask α)) :
    (List.zipWith f l1 l2).map Mask.obs = List.zipWith g (l1.map Mask.obs) (l2.map Mask.obs) := by
  simp only [List.map_zipWith, List.zipWith_map, h]

theorem length_pickV {β} (idx : List Int) (xs ys : List β) :
    (pickV idx xs ys).length = min idx.length (min xs.length ys.length) := by
  simp only [pickV, List.length_zipWith, List.length_zip]

theorem length_orIdxV (fs gs : List Bool) : (orIdxV fs gs).length = min fs.length gs.length :=
  List.length_zipWith

end VMask

section rank2
open Mask
variable {α : Type}

theorem filterMap_range_eq_take (l : List α) (n : Nat) (g : Nat → Option α) (h : ∀ j < n, g j = l[j]?) :
    (List.range n).filterMap g = l.take n := by
  induction n with
  | zero => rfl
  | succ n ih =>
    rw [List.range_succ, List.filterMap_append, ih fun j hj => h j (Nat.lt_succ_of_lt hj), List.take_add_one,
      List.filterMap_cons, h n (Nat.lt_succ_self n)]
    cases l[n]? <;> rfl

theorem bcastCols_one (m : Nat) : M2.bcastCols 1 m = .ok m := by
  unfold M2.bcastCols
  by_cases h : m = 1
  · rw [if_pos h, h]
  · rw [if_neg h, if_neg h, if_pos rfl]

theorem bcast2_one {σ} (f : σ → α → α → α) (s : σ) (ra rb : List α) :
    M2.bcast2 f [s] [ra] [rb] = .ok [List.zipWith (f s) ra rb] := by
  have hl : (List.zipWith (f s) ra rb).length ≤ ra.length := List.length_zipWith ▸ Nat.min_le_left _ _
  -- unfolded step by step: `simp` would retry the cell's stuck `match` on every pass
  unfold M2.bcast2
  rw [show M2.ncols [ra] = ra.length from rfl, List.length_singleton]
  dsimp only
  rw [bcastCols_one]
  dsimp only [List.range_one, List.map_cons, List.map_nil]
  rw [← List.take_of_length_le hl]
  refine congrArg (fun row => Except.ok [row]) (filterMap_range_eq_take _ _ _ fun j hj => ?_)
  -- column `j` of `ra` is its own aligned index, also when `ra` has a single column
  have hj' : (if ra.length = 1 then 0 else j) = j := by
    split
    · next hm => exact (Nat.lt_one_iff.1 (hm ▸ hj)).symm
    · rfl
  rw [hj', List.getElem?_zipWith]
  dsimp only [if_true, List.getElem?_cons_zero, Option.bind_some]
  cases ra[j]? <;> cases rb[j]? <;> rfl

theorem zipWith_fst (xs ys : List α) (h : xs.length = ys.length) :
    List.zipWith (fun x _ => x) xs ys = xs :=
  (List.map_zip_eq_zipWith (f := Prod.fst)).symm.trans (List.map_fst_zip (Nat.le_of_eq h))

theorem zipWith_snd (xs ys : List α) (h : xs.length = ys.length) :
    List.zipWith (fun _ y => y) xs ys = ys :=
  (List.map_zip_eq_zipWith (f := Prod.snd)).symm.trans (List.map_snd_zip (Nat.le_of_eq h.symm))

/-- With a single row numpy's alignment of the rank-1 index with the last axis does no harm. -/
theorem zipWith_pick (i : Int) (xs ys : List α) (h : xs.length = ys.length) :
    List.zipWith (pick i) xs ys = pick i xs ys := by
  -- `pick i` is the first or the second projection, on elements and on rows alike
  rcases Int.emod_two_eq i with hi | hi
  · have e : ∀ β (x y : β), pick i x y = x := fun β x y => by rw [pick, hi]; rfl
    rw [e, funext fun x => funext (e α x)]
    exact zipWith_fst xs ys h
  · have e : ∀ β (x y : β), pick i x y = y := fun β x y => by rw [pick, hi]; rfl
    rw [e, funext fun x => funext (e α x)]
    exact zipWith_snd xs ys h

end rank2
end GenjaxVerif.MaskModel
