import GenjaxVerif.Lemmas.GFIBasic
/-! Choice-map algebra: sub-maps of prefixed / concatenated / masked maps, and with them the choices of static and
    vector traces at an address or index. -/
namespace GenjaxVerif.GFI
open GenjaxVerif

namespace CMap

theorem sub_append (a b : CMap) (k : Comp) : CMap.sub (a ++ b) k = CMap.sub a k ++ CMap.sub b k := by
  simp [sub, List.filterMap_append]

@[simp] theorem sub_nil (k : Comp) : CMap.sub [] k = [] := rfl

theorem subStatic_cons (c : CMap) (x : String) (xs : List String) :
    CMap.subStatic c (x :: xs) = CMap.subStatic (CMap.sub c (.s x)) xs := rfl

theorem subStatic_append (a b : CMap) (addr : List String) :
    CMap.subStatic (a ++ b) addr = CMap.subStatic a addr ++ CMap.subStatic b addr := by
  induction addr generalizing a b with
  | nil => rfl
  | cons x xs ih => rw [subStatic_cons, subStatic_cons, subStatic_cons, sub_append, ih]

@[simp] theorem subStatic_nil (addr : List String) : CMap.subStatic [] addr = [] := by
  induction addr with
  | nil => rfl
  | cons x xs ih => rw [subStatic_cons, sub_nil, ih]

theorem sub_cons_hit (k : Comp) (q : Path) (v : CVal) (c : CMap) :
    CMap.sub ((k :: q, v) :: c) k = (q, v) :: CMap.sub c k := by
  simp [sub]

theorem sub_cons_miss {k k' : Comp} (h : k' ≠ k) (q : Path) (v : CVal) (c : CMap) :
    CMap.sub ((k' :: q, v) :: c) k = CMap.sub c k := by
  simp [sub, h]

theorem sub_cons_nil (k : Comp) (v : CVal) (c : CMap) : CMap.sub (([], v) :: c) k = CMap.sub c k := by
  simp [sub]

theorem pre_cons_entry (ks p : Path) (v : CVal) (c : CMap) : pre ks ((p, v) :: c) = (ks ++ p, v) :: pre ks c := rfl

@[simp] theorem pre_nil_path (c : CMap) : pre [] c = c := by
  simp [pre]

@[simp] theorem pre_nil (ks : Path) : pre ks ([] : CMap) = [] := rfl

theorem pre_cons (k : Comp) (ks : Path) (c : CMap) : pre (k :: ks) c = pre [k] (pre ks c) := by
  simp [pre, List.map_map, Function.comp_def]

theorem sub_pre_same (k : Comp) (c : CMap) : CMap.sub (pre [k] c) k = c := by
  simp [sub, pre, List.filterMap_map, Function.comp_def]

theorem sub_pre_ne {k k' : Comp} (h : k' ≠ k) (c : CMap) : CMap.sub (pre [k'] c) k = [] := by
  simp [sub, pre, List.filterMap_map, Function.comp_def, h]

/-- Neither address is a prefix of the other. -/
def Incomp (a b : List String) : Prop := ¬ a <+: b ∧ ¬ b <+: a

theorem Incomp.symm {a b : List String} (h : Incomp a b) : Incomp b a := ⟨h.2, h.1⟩

theorem subStatic_pre_same (addr : List String) (c : CMap) :
    CMap.subStatic (pre (addr.map Comp.s) c) addr = c := by
  induction addr with
  | nil => simp [subStatic]
  | cons x xs ih => rw [List.map_cons, pre_cons, subStatic_cons, sub_pre_same, ih]

theorem subStatic_pre_incomp (a b : List String) (h : Incomp a b) (c : CMap) :
    CMap.subStatic (pre (b.map Comp.s) c) a = [] := by
  induction a generalizing b with
  | nil => exact absurd List.nil_prefix h.1
  | cons x a ih =>
    cases b with
    | nil => exact absurd List.nil_prefix h.2
    | cons y b =>
      rw [List.map_cons, pre_cons, subStatic_cons]
      by_cases hxy : y = x
      · subst hxy
        rw [sub_pre_same]
        exact ih b ⟨fun hp => h.1 (List.cons_prefix_cons.2 ⟨rfl, hp⟩),
          fun hp => h.2 (List.cons_prefix_cons.2 ⟨rfl, hp⟩)⟩
      · rw [sub_pre_ne (fun h' => hxy (Comp.s.inj h'))]
        exact subStatic_nil a

theorem maskAll_cons (f : Bool) (p : Path) (v : CVal) (c : CMap) :
    maskAll f ((p, v) :: c) = (p, v.mask f) :: maskAll f c := rfl

theorem sub_maskAll (f : Bool) (c : CMap) (k : Comp) : CMap.sub (maskAll f c) k = maskAll f (CMap.sub c k) := by
  -- both sides are one `filterMap` over `c`, by functions that agree entry by entry
  simp only [sub, maskAll, List.filterMap_map, List.map_filterMap]
  congr 1
  funext ⟨p, v⟩
  cases p with
  | nil => rfl
  | cons k' q => by_cases hk : k' = k <;> simp [hk]

theorem subStatic_maskAll (f : Bool) (c : CMap) (addr : List String) :
    CMap.subStatic (maskAll f c) addr = maskAll f (CMap.subStatic c addr) := by
  induction addr generalizing c with
  | nil => rfl
  | cons x xs ih => rw [subStatic_cons, subStatic_cons, sub_maskAll, ih]

theorem leaf_maskAll (f : Bool) (c : CMap) : CMap.leaf (maskAll f c) = (CMap.leaf c).map (CVal.mask f) := by
  simp [leaf, maskAll, List.find?_map, Function.comp_def, Option.map_map]

@[simp] theorem isEmpty_maskAll (f : Bool) (c : CMap) : List.isEmpty (maskAll f c) = List.isEmpty c := by
  cases c <;> rfl

@[simp] theorem maskAll_nil (f : Bool) : maskAll f ([] : CMap) = [] := rfl

end CMap
end GenjaxVerif.GFI

namespace GenjaxVerif.GFI
open GenjaxVerif CMap

theorem choicesAL_cons (a : List String) (t : Trace) (rest : List (List String × Trace)) :
    Trace.choicesAL ((a, t) :: rest) = CMap.pre (a.map Comp.s) t.choices ++ Trace.choicesAL rest := by
  simp [Trace.choicesAL]

theorem choicesL_cons (k : Nat) (t : Trace) (ts : List Trace) :
    Trace.choicesL k (t :: ts) = CMap.pre [.i k] t.choices ++ Trace.choicesL (k + 1) ts := by
  simp [Trace.choicesL]

theorem choicesAL_append (a b : List (List String × Trace)) :
    Trace.choicesAL (a ++ b) = Trace.choicesAL a ++ Trace.choicesAL b := by
  induction a with
  | nil => simp [Trace.choicesAL]
  | cons x xs ih => obtain ⟨k, t⟩ := x; simp [choicesAL_cons, ih]

theorem subStatic_choicesAL (subs : List (List String × Trace)) (hp : (subs.map (·.1)).Pairwise Incomp)
    (a : List String) (t : Trace) (hm : (a, t) ∈ subs) : CMap.subStatic (Trace.choicesAL subs) a = t.choices := by
  have hrest_nil : ∀ rest : List (List String × Trace), (∀ x ∈ rest, Incomp a x.1) →
      CMap.subStatic (Trace.choicesAL rest) a = [] := by
    intro rest h
    induction rest with
    | nil => exact subStatic_nil a
    | cons x rest ih =>
      rw [choicesAL_cons, subStatic_append, subStatic_pre_incomp a x.1 (h x List.mem_cons_self),
        ih fun y hy => h y (List.mem_cons_of_mem _ hy)]
      rfl
  induction subs with
  | nil => cases hm
  | cons x rest ih =>
    obtain ⟨hx, hrest⟩ := List.pairwise_cons.1 hp
    rw [choicesAL_cons, subStatic_append]
    rcases List.mem_cons.1 hm with rfl | hm
    · rw [subStatic_pre_same, hrest_nil rest fun y hy => hx y.1 (List.mem_map_of_mem hy), List.append_nil]
    · rw [subStatic_pre_incomp a x.1 (hx a (List.mem_map_of_mem hm)).symm, ih hrest hm]
      rfl

theorem sub_choicesL_lt (ts : List Trace) (k j : Nat) (h : j < k) : CMap.sub (Trace.choicesL k ts) (.i j) = [] := by
  induction ts generalizing k with
  | nil => rfl
  | cons t ts ih =>
    rw [choicesL_cons, sub_append, sub_pre_ne (fun h' => Nat.ne_of_gt h (Comp.i.inj h')), ih (k + 1) (Nat.lt_succ_of_lt h)]
    rfl

theorem sub_choicesL (ts : List Trace) (k j : Nat) (h : j < ts.length) :
    CMap.sub (Trace.choicesL k ts) (.i (k + j)) = ts[j].choices := by
  induction ts generalizing k j with
  | nil => cases h
  | cons t ts ih =>
    rw [choicesL_cons, sub_append]
    cases j with
    | zero => rw [Nat.add_zero, sub_pre_same, sub_choicesL_lt ts (k + 1) k (Nat.lt_succ_self k), List.append_nil]; rfl
    | succ j =>
      rw [sub_pre_ne (fun h' => Nat.ne_of_lt (Nat.lt_add_of_pos_right (Nat.succ_pos j)) (Comp.i.inj h')),
        show k + (j + 1) = k + 1 + j from (Nat.add_right_comm k 1 j).symm, ih (k + 1) j (Nat.lt_of_succ_lt_succ h)]
      rfl

end GenjaxVerif.GFI
