import GenjaxVerif.Model.FinProbInfer
/-! Finite distributions over ℚ.  A constant factor comes out of the sum (`sum_map_mul_left`) wherever it sits:
    on the weights, on the integrand, or as the integrand. -/
namespace GenjaxVerif.FinProbInfer

theorem sum_map_mul_left (l : List Rat) (c : Rat) : (l.map (fun x => c * x)).sum = c * l.sum := by
  induction l with
  | nil => exact (Rat.mul_zero c).symm
  | cons x xs ih => rw [List.map_cons, List.sum_cons, List.sum_cons, ih, Rat.mul_add]

theorem expect_nil {α} (f : α → Rat) : expect ([] : FinDist α) f = 0 := rfl

theorem expect_cons {α} (x : α × Rat) (d : FinDist α) (f : α → Rat) :
    expect (x :: d) f = x.2 * f x.1 + expect d f := rfl

theorem expect_append {α} (d e : FinDist α) (f : α → Rat) :
    expect (d ++ e) f = expect d f + expect e f := by
  rw [expect, List.map_append, List.sum_append]; rfl

theorem expect_dmap {α β} (h : α → β) (d : FinDist α) (f : β → Rat) :
    expect (dmap h d) f = expect d (fun a => f (h a)) := by
  rw [expect, dmap, List.map_map]; rfl

theorem expect_scale {α} (d : FinDist α) (c : Rat) (f : α → Rat) :
    expect (d.map (fun y => (y.1, c * y.2))) f = c * expect d f := by
  rw [expect, expect, ← sum_map_mul_left, List.map_map, List.map_map]
  exact congrArg List.sum (List.map_congr_left fun x _ => Rat.mul_assoc c x.2 (f x.1))

theorem expect_mul_left {α} (d : FinDist α) (c : Rat) (f : α → Rat) :
    expect d (fun a => c * f a) = c * expect d f := by
  rw [expect, expect, ← sum_map_mul_left, List.map_map]
  refine congrArg List.sum (List.map_congr_left fun x _ => ?_)
  show x.2 * (c * f x.1) = c * (x.2 * f x.1)
  rw [← Rat.mul_assoc, Rat.mul_comm x.2 c, Rat.mul_assoc]

theorem expect_const {α} (d : FinDist α) (c : Rat) : expect d (fun _ => c) = c * mass d := by
  rw [expect, mass, ← sum_map_mul_left, List.map_map]
  exact congrArg List.sum (List.map_congr_left fun x _ => Rat.mul_comm x.2 c)

theorem expect_div_right {α} (d : FinDist α) (c : Rat) (f : α → Rat) :
    expect d (fun a => f a / c) = expect d f / c := by
  rw [Rat.div_def, Rat.mul_comm, ← expect_mul_left]
  congr 1; funext a; rw [Rat.div_def, Rat.mul_comm]

theorem expect_add {α} (d : FinDist α) (f g : α → Rat) :
    expect d (fun a => f a + g a) = expect d f + expect d g := by
  induction d with
  | nil => exact (Rat.add_zero 0).symm
  | cons x xs ih =>
    rw [expect_cons, expect_cons, expect_cons, ih, Rat.mul_add, Rat.add_assoc, Rat.add_assoc,
      Rat.add_left_comm (x.2 * g x.1)]

theorem mass_eq_expect {α} (d : FinDist α) : mass d = expect d (fun _ => 1) := by
  rw [expect_const, Rat.one_mul]

theorem mass_dmap {α β} (h : α → β) (d : FinDist α) : mass (dmap h d) = mass d := by
  rw [mass_eq_expect, expect_dmap, ← mass_eq_expect]

/-- The law of total expectation. -/
theorem expect_dbind {α β} (d : FinDist α) (g : α → FinDist β) (f : β → Rat) :
    expect (dbind d g) f = expect d (fun a => expect (g a) f) := by
  induction d with
  | nil => rfl
  | cons x xs ih =>
    rw [dbind, List.flatMap_cons, expect_append, expect_scale, expect_cons, ← ih]; rfl

/-- `generate` is an unbiased estimator of the normalising constant (no proposal). -/
theorem expect_genD (t : Tree) (c : Asg) : expect (genD t c) (fun r => r.2) = Z t c := by
  induction t with
  | ret => exact (Rat.add_zero _).trans (Rat.mul_one 1)
  | choose a d k ih =>
    rw [genD, Z]
    cases c.lookup a with
    | some v => rw [expect_dmap, expect_mul_left, ih]
    | none =>
      rw [expect_dbind]
      simp only [expect_dmap, ih]
      rfl

theorem expect_isD (t : Tree) (obs : Asg) (q : FinDist (Asg × Rat)) :
    expect (isD t obs q) (fun w => w) = expect q (fun x => Z t (obs ++ x.1) / x.2) := by
  rw [isD, expect_dbind]
  congr 1; funext x
  rw [expect_dmap, expect_div_right, expect_genD]

theorem mass_sumK (d : FinDist Rat) (h : mass d = 1) (n : Nat) : mass (sumK d n) = 1 := by
  induction n with
  | zero => exact Rat.add_zero 1
  | succ n ih =>
    rw [mass_eq_expect] at ih ⊢
    rw [sumK, expect_dbind]
    simp only [expect_dmap, ih]
    rw [← mass_eq_expect, h]

theorem expect_sumK (d : FinDist Rat) (h : mass d = 1) (n : Nat) :
    expect (sumK d n) (fun s => s) = (n : Rat) * expect d (fun w => w) := by
  induction n with
  | zero => exact (Rat.add_zero _).trans ((Rat.mul_zero 1).trans (Rat.zero_mul _).symm)
  | succ n ih =>
    -- `E[w + s] = E[w] + E[s]` for `w ~ d` and the sum `s` of the other `n`, both of mass 1
    have hw (w : Rat) : expect (sumK d n) (fun s => w + s) = w + (n : Rat) * expect d (fun w => w) := by
      rw [expect_add, expect_const, mass_sumK d h n, Rat.mul_one, ih]
    rw [sumK, expect_dbind]
    simp only [expect_dmap, hw]
    rw [expect_add, expect_const, h, Rat.mul_one, Rat.natCast_add, Rat.natCast_ofNat, Rat.add_mul, Rat.one_mul,
      Rat.add_comm]

theorem expect_mean_sumK (d : FinDist Rat) (h : mass d = 1) (K : Nat) (hK : 0 < K) :
    expect (sumK d K) (fun s => s / (K : Rat)) = expect d (fun w => w) := by
  have hk : (K : Rat) ≠ 0 := Rat.ne_of_gt (by exact_mod_cast hK)
  rw [expect_div_right, expect_sumK d h, Rat.div_def, Rat.mul_comm, ← Rat.mul_assoc, Rat.inv_mul_cancel _ hk,
    Rat.one_mul]

end GenjaxVerif.FinProbInfer
