import GenjaxVerif.Lemmas.CMap
import GenjaxVerif.Lemmas.GFISafe
/-! Running an operation again so that every call returns its old trace: `assess` on a trace's own choices rebuilds
    that trace (and is insensitive to masking the sample's leaves), and the empty `Update` with the trace's own
    arguments is the identity with weight 0, so `EmptyRequest`'s two readings coincide. -/
namespace GenjaxVerif.GFI
open GenjaxVerif CMap

/-- The same input with every leaf of the sample re-masked by `f` (`chm.mask(f)`). -/
def maskIn (f : Bool) (i : In) : In := { i with c := maskAll f i.c }

theorem leaf_assess_mask (ds : DistSem) (d : Nat) (f : Bool) (i : In) :
    leaf ds .assess d (maskIn f i) = leaf ds .assess d i := by
  unfold leaf
  simp only [maskIn, leaf_maskAll]
  cases h : i.c.leaf with
  | none => simp
  | some v => cases v <;> simp [CVal.mask]

theorem bindIn_assess_mask (f : Bool) (i : In) (olds st addr a) :
    bindIn .assess (maskIn f i) olds st addr a = (bindIn .assess i olds st addr a).map (maskIn f) := by
  unfold bindIn
  simp only [maskIn, subStatic_maskAll, isEmpty_maskAll, bindOld]
  -- both sides make the same two tests
  cases (lookupSub st.subs addr).isSome
  · cases (i.c.subStatic addr).isEmpty <;> rfl
  · rfl

theorem vmapElem_mask (f : Bool) (axes as) (i : In) (k : Nat) :
    vmapElem axes as (maskIn f i) k = (vmapElem axes as i k).map (maskIn f) := by
  unfold vmapElem
  simp only [maskIn, sub_maskAll]
  cases sliceArgs axes as k with
  | error e => rfl
  | ok ea =>
    cases nthOld i.old k with
    | error e => rfl
    | ok o => rfl

theorem scanElem_mask (f : Bool) (m) (i : In) (k key carry x) :
    scanElem m (maskIn f i) k key carry x = (scanElem m i k key carry x).map (maskIn f) := by
  unfold scanElem
  simp only [maskIn, sub_maskAll]
  cases nthOld i.old k with
  | error e => rfl
  | ok o => rfl

theorem runBody_assess_mask (ds : DistSem) (f : Bool) (b : Body)
    (hP : ∀ p ∈ Body.progs b, ∀ i, run ds .assess p (maskIn f i) = run ds .assess p i)
    (i : In) (olds env) (st : SState) :
    runBody ds .assess b (maskIn f i) olds env st = runBody ds .assess b i olds env st := by
  induction b using Body.ind generalizing env st with
  | ret e => simp only [runBody]
  | bind addr p aes rest ih =>
    simp only [runBody]
    refine bind_congr fun a => ?_
    rw [bindIn_assess_mask]
    refine (bind_map_left ..).trans (bind_congr fun i' => ?_)
    rw [hP p (List.mem_cons_self ..) i']
    exact bind_congr fun r => ih (fun q hq => hP q (List.mem_cons_of_mem _ hq)) _ _

theorem assess_mask (ds : DistSem) (f : Bool) : ∀ (p : Prog) (i : In),
    run ds .assess p (maskIn f i) = run ds .assess p i := by
  intro p i
  induction p using Prog.ind generalizing i with
  | dist d => simp only [run]; exact leaf_assess_mask ds d f i
  | static b ih =>
    simp only [run, staticRun, runBody_assess_mask ds f b ih]; rfl
  | vec p q hq ih =>
    cases hq with
    | vmap axes =>
      simp only [run, vmapRun]
      have : ∀ as, (fun k => do run ds .assess p (← vmapElem axes as (maskIn f i) k)) =
          (fun k => do run ds .assess p (← vmapElem axes as i k)) := by
        intro as; funext k
        rw [vmapElem_mask]
        exact (bind_map_left ..).trans (bind_congr ih)
      simp only [this]; rfl
    | scan len =>
      simp only [run, scanRun]
      have : (fun k key carry x => do run ds .assess p (← scanElem .assess (maskIn f i) k key carry x)) =
          (fun k key carry x => do run ds .assess p (← scanElem .assess i k key carry x)) := by
        funext k key carry x
        rw [scanElem_mask]
        exact (bind_map_left ..).trans (bind_congr ih)
      simp only [this]; rfl
  | switch ps ih =>
    simp only [run, switchRun]
    have : ∀ idx ba, runNth ds .assess ps idx { (maskIn f i) with args := ba } =
        runNth ds .assess ps idx { i with args := ba } := fun idx ba =>
      runNth_congr fun p hp => ih p hp { i with args := ba }
    simp only [this]; rfl
  | mask p ih =>
    simp only [run, maskRun]
    have : ∀ iargs, run ds .assess p { (maskIn f i) with args := .tup iargs } =
        run ds .assess p { i with args := .tup iargs } := fun iargs => ih { i with args := .tup iargs }
    simp only [this]; rfl
  | dimap pre p post ih =>
    simp only [run, dimapRun]
    have : ∀ o ia, run ds .assess p { (maskIn f i) with old := o, args := .tup ia } =
        run ds .assess p { i with old := o, args := .tup ia } := fun o ia => ih { i with old := o, args := .tup ia }
    simp only [this]; rfl

theorem assess_mask_nth (ds : DistSem) (f : Bool) : ∀ (ps : List Prog) (k : Nat) (i : In),
    runNth ds .assess ps k (maskIn f i) = runNth ds .assess ps k i := fun _ _ i =>
  runNth_congr fun p _ => assess_mask ds f p i

theorem assess_mask_body (ds : DistSem) (f : Bool) : ∀ (b : Body) (i : In) (olds env) (st : SState),
    runBody ds .assess b (maskIn f i) olds env st = runBody ds .assess b i olds env st := fun b =>
  runBody_assess_mask ds f b fun p _ => assess_mask ds f p

mutual
/-- `Good t`: at every static-language node of `t` the recorded addresses are pairwise
    prefix-free and every traced call made at least one random choice (so that
    `AssessHandler`'s `static_is_empty` test does not raise `MissingAddress`). -/
def Good : Trace → Prop
  | .dist _ _ _ _ => True
  | .static _ _ subs => (subs.map (·.1)).Pairwise Incomp ∧ GoodAL subs
  | .vec _ _ elems => GoodL elems
  | .switch _ _ sub => Good sub
  | .mask _ inner => Good inner
  | .dimap _ _ inner => Good inner
def GoodL : List Trace → Prop
  | [] => True
  | t :: ts => Good t ∧ GoodL ts
def GoodAL : List (List String × Trace) → Prop
  | [] => True
  | (_, t) :: ts => t.choices ≠ [] ∧ Good t ∧ GoodAL ts
end

theorem goodL_get {ts : List Trace} (hg : GoodL ts) (j : Nat) (h : j < ts.length) : Good ts[j] := by
  induction ts generalizing j with
  | nil => cases h
  | cons t ts ih =>
    cases j with
    | zero => exact hg.1
    | succ j => exact ih hg.2 j (Nat.lt_of_succ_lt_succ h)

theorem goodAL_mem {subs : List (List String × Trace)} (hg : GoodAL subs) (a : List String) (t : Trace)
    (h : (a, t) ∈ subs) : t.choices ≠ [] ∧ Good t := by
  induction subs with
  | nil => cases h
  | cons x rest ih =>
    rcases List.mem_cons.1 h with rfl | h
    · exact ⟨hg.1, hg.2.1⟩
    · exact ih hg.2.2 h

def replayed (t : Trace) : Res := ⟨t, t.score, [], true⟩

theorem sumW_replayed (rs : List Res) : sumW (rs.map fun r => replayed r.tr) = Trace.scoreL (rs.map (·.tr)) := by
  rw [sumW_eq_scoreL fun k hk => by simp [replayed], List.map_map]; rfl

theorem leaf_replay {ds m d i r} (h : leaf ds m d i = .ok r) (j : In)
    (hc : j.c = r.tr.choices) (ha : j.args = i.args) : leaf ds .assess d j = .ok (replayed r.tr) := by
  obtain ⟨v, hv⟩ := leaf_form h
  exact leaf_assess.2 ⟨v, .inl (by rw [hc, hv]; rfl), by rw [hv, ha]; rfl⟩

theorem runBody_replay (ds : DistSem) {m : Mode} (b : Body)
    (hP : ∀ p ∈ Body.progs b, ∀ (i : In) (r : Res), run ds m p i = .ok r → Good r.tr →
      ∀ j : In, j.c = r.tr.choices → j.args = i.args → j.old = none → run ds .assess p j = .ok (replayed r.tr))
    (i : In) (olds env) (st st' : SState) (v : Val) (h : runBody ds m b i olds env st = .ok (st', v))
    (hpw : (st'.subs.map (·.1)).Pairwise Incomp) (hgood : GoodAL st'.subs)
    (j : In) (hc : j.c = Trace.choicesAL st'.subs) (olds' : List (List String × Trace)) (sta : SState)
    (hs : sta.subs = st.subs) :
    ∃ sta', runBody ds .assess b j olds' env sta = .ok (sta', v) ∧ sta'.subs = st'.subs ∧
      sta'.w = sta.w + (Trace.scoreAL st'.subs - Trace.scoreAL st.subs) ∧ sta'.bwd = sta.bwd ∧
      sta'.bwdOk = sta.bwdOk := by
  refine runBody_rerun (m' := .assess) (j := j) (olds' := olds')
    (R := fun s sa => sa.subs = s.subs ∧ sa.w = sta.w + (Trace.scoreAL s.subs - Trace.scoreAL st.subs) ∧
      sa.bwd = sta.bwd ∧ sa.bwdOk = sta.bwdOk) b h ⟨hs, by rw [Int.sub_self, Int.add_zero], rfl, rfl⟩ ?_
  rintro p hp s sa addr a i' r suf ⟨hs1, hw1, hb1, hk1⟩ hi' hr hsuf
  obtain ⟨hnone, _, o, _, rfl⟩ := bindIn_ok.1 hi'
  -- the call's trace is recorded at `addr`, so the final choices hold its own choices there, and they are not empty
  have hmem : (addr, r.tr) ∈ st'.subs := by rw [hsuf]; exact List.mem_append_right _ List.mem_cons_self
  obtain ⟨hne, hgr⟩ := goodAL_mem hgood addr r.tr hmem
  have hsub : CMap.subStatic j.c addr = r.tr.choices := hc ▸ subStatic_choicesAL st'.subs hpw addr r.tr hmem
  refine ⟨_, replayed r.tr, bindIn_ok.2 ⟨hs1 ▸ hnone, fun _ => ?_, none, rfl, rfl⟩,
    hP p hp _ r hr hgr _ hsub rfl rfl, rfl, ?_⟩
  · rw [hsub]; cases hch : r.tr.choices with
    | nil => exact absurd hch hne
    | cons _ _ => rfl
  · refine ⟨by simp only [bindOut, hs1]; rfl, ?_, by simp only [bindOut, hb1, replayed, CMap.pre_nil, List.append_nil],
      by simp only [bindOut, hk1, replayed, Bool.and_true]⟩
    simp only [bindOut, hw1, replayed, scoreAL_append, Trace.scoreAL]
    omega

theorem replay (ds : DistSem) : ∀ (m : Mode) (p : Prog) (i : In) (r : Res), run ds m p i = .ok r → Good r.tr →
    ∀ j : In, j.c = r.tr.choices → j.args = i.args → j.old = none →
    run ds .assess p j = .ok (replayed r.tr) := by
  intro m p i r h hg j hc ha ho
  induction p using Prog.ind generalizing m i r j with
  | dist d => exact leaf_replay h j hc ha
  | static b ih =>
    obtain ⟨env, henv, olds, _, st, v, hb, rfl⟩ := run_static.1 h
    obtain ⟨sta, hb1, hb2, hb3, hb4, hb5⟩ :=
      runBody_replay ds b (fun p hp => ih p hp m) i olds env {} st v hb hg.1 hg.2 j hc [] {} rfl
    refine run_static.2 ⟨env, ha ▸ henv, [], by rw [ho]; rfl, sta, v, hb1, ?_⟩
    rw [hb2, hb3, hb4, hb5, ha]
    simp only [replayed, Trace.score, Trace.scoreAL, Int.zero_add, Int.sub_zero]
  | vec p q hq ih =>
    obtain ⟨ret, rs, rfl, hre⟩ := run_vec_rerun .assess (fun r => replayed r.tr) hq (fun _ => ⟨rfl, rfl, rfl⟩)
      (by decide) h ha
    rw [hre (.inl ho) fun k hk ik jk hr hin hja => ?_, sumW_replayed, ha]
    · rfl
    · -- element `k` replays on the sub-map at index `k`, which holds its own choices
      have hk' : k < (rs.map (·.tr)).length := by rw [List.length_map]; exact hk
      have hgk := goodL_get hg k hk'
      have hck := sub_choicesL (rs.map (·.tr)) 0 k hk'
      rw [List.getElem_map] at hgk hck
      refine ih m ik _ hr hgk jk ?_ hja ?_
      · rw [hin.c, hc, ← hck, Nat.zero_add]; rfl
      · simpa [nthOld, ho] using hin.old.symm
  | switch ps ih =>
    obtain ⟨idx, ba, p, i', r', hsa, hp, hr, hia, _, htr⟩ := run_switch_form h
    rw [htr] at hg hc ⊢
    have := ih p (List.mem_of_getElem? hp) m i' r' hr hg { j with args := ba } hc hia.symm ho
    exact (run_switch_plain (.inr (.inl rfl))).2
      ⟨idx, ba, ha ▸ hsa, _, runNth_ok.2 ⟨p, hp, this⟩, by simp [replayed, Trace.score, ha]⟩
  | mask p ih =>
    obtain ⟨check, iargs, i', r', hma, hr, hia, _, htr⟩ := run_mask_form h
    rw [htr] at hg hc ⊢
    have h1 := ih m i' r' hr hg { j with c := r'.tr.choices, args := .tup iargs } rfl hia.symm ho
    have h2 := assess_mask ds check p { j with c := r'.tr.choices, args := .tup iargs }
    have h3 : maskIn check { j with c := r'.tr.choices, args := .tup iargs } = { j with args := .tup iargs } := by
      simp [maskIn, hc, Trace.choices]
    rw [h3, h1] at h2
    refine (run_mask_plain (.inr (.inl rfl))).2 ⟨check, iargs, ha ▸ hma, _, h2, ?_⟩
    cases check <;> simp [replayed, Trace.score]
  | dimap pre p post ih =>
    obtain ⟨as, has, ia, hia, o, _, r', hr, rv, hrv, rfl⟩ := run_dimap.1 h
    have h1 := ih m _ r' hr hg { j with old := none, args := .tup ia } hc rfl rfl
    exact run_dimap.2 ⟨as, ha ▸ has, ia, hia, none, by simp [dimapOld], _, h1, rv, by simpa [ha, replayed] using hrv,
      by simp [replayed, Trace.score, ha]⟩

theorem replay_nth (ds : DistSem) : ∀ (m : Mode) (ps : List Prog) (k : Nat) (i : In) (r : Res),
    runNth ds m ps k i = .ok r → Good r.tr →
    ∀ j : In, j.c = r.tr.choices → j.args = i.args → j.old = none →
    runNth ds .assess ps k j = .ok (replayed r.tr) := by
  intro m _ _ i r h hg j hc ha ho
  obtain ⟨p, hp, hr⟩ := runNth_ok.1 h
  exact runNth_ok.2 ⟨p, hp, replay ds m p i r hr hg j hc ha ho⟩

theorem replay_body (ds : DistSem) : ∀ (m : Mode) (b : Body) (i : In) (olds env) (st st' : SState) (v : Val),
    runBody ds m b i olds env st = .ok (st', v) →
    (st'.subs.map (·.1)).Pairwise Incomp → GoodAL st'.subs →
    ∀ j : In, j.c = Trace.choicesAL st'.subs → ∀ olds' (sta : SState), sta.subs = st.subs →
    ∃ sta', runBody ds .assess b j olds' env sta = .ok (sta', v) ∧ sta'.subs = st'.subs ∧
      sta'.w = sta.w + (Trace.scoreAL st'.subs - Trace.scoreAL st.subs) ∧ sta'.bwd = sta.bwd ∧
      sta'.bwdOk = sta.bwdOk := fun m b =>
  runBody_replay ds b fun p _ => replay ds m p

def ided (t : Trace) : Res := ⟨t, 0, [], true⟩

theorem sumW_ided (rs : List Res) : sumW (rs.map fun r => ided r.tr) = 0 :=
  sumW_eq_zero fun k hk => by simp [ided]

theorem leaf_id {ds m d i r} (h : leaf ds m d i = .ok r) (j : In)
    (hc : j.c = []) (ha : j.args = i.args) (ho : j.old = some r.tr) : leaf ds .upd d j = .ok (ided r.tr) := by
  obtain ⟨v, hv⟩ := leaf_form h
  rw [leaf_upd (ho.trans (congrArg some hv)), hc, hv, ha]
  simp [validValue, CMap.leaf, ided]

@[simp] theorem sub_nil' (k : Comp) : CMap.sub ([] : CMap) k = [] := rfl

theorem runBody_id (ds : DistSem) {m : Mode} (b : Body)
    (hP : ∀ p ∈ Body.progs b, ∀ (i : In) (r : Res), run ds m p i = .ok r →
      ∀ j : In, j.c = [] → j.args = i.args → j.old = some r.tr → Safe j.changed p → run ds .upd p j = .ok (ided r.tr))
    (i : In) (olds env) (st st' : SState) (v : Val) (h : runBody ds m b i olds env st = .ok (st', v))
    (j : In) (hc : j.c = []) (hsafe : SafeBody j.changed b) (sta : SState) (hs : sta.subs = st.subs) :
    ∃ sta', runBody ds .upd b j st'.subs env sta = .ok (sta', v) ∧ sta'.subs = st'.subs ∧
      sta'.w = sta.w ∧ sta'.bwd = sta.bwd ∧ sta'.bwdOk = sta.bwdOk := by
  refine runBody_rerun (m' := .upd) (j := j) (olds' := st'.subs)
    (R := fun s sa => sa.subs = s.subs ∧ sa.w = sta.w ∧ sa.bwd = sta.bwd ∧ sa.bwdOk = sta.bwdOk)
    b h ⟨hs, rfl, rfl, rfl⟩ ?_
  rintro p hp s sa addr a i' r suf ⟨hs1, hw1, hb1, hk1⟩ hi' hr hsuf
  obtain ⟨hnone, _, o, _, rfl⟩ := bindIn_ok.1 hi'
  -- the call's trace is the first one recorded at `addr`, so that is the previous subtrace the update fetches
  have hlook : lookupSub st'.subs addr = some r.tr := hsuf ▸ lookupSub_append_hit hnone
  refine ⟨_, ided r.tr, bindIn_ok.2 ⟨hs1 ▸ hnone, nofun, _, bindOld_upd.2 ⟨_, hlook, rfl⟩, rfl⟩,
    hP p hp _ r hr _ (by rw [hc]; exact CMap.subStatic_nil addr) rfl rfl (safeBody_mem hsafe p hp), rfl, ?_⟩
  exact ⟨by simp only [bindOut, hs1]; rfl, by simp only [bindOut, hw1, ided, Int.add_zero],
    by simp only [bindOut, hb1, ided, CMap.pre_nil, List.append_nil], by simp only [bindOut, hk1, ided, Bool.and_true]⟩

theorem upd_id (ds : DistSem) : ∀ (m : Mode) (p : Prog) (i : In) (r : Res), run ds m p i = .ok r →
    ∀ j : In, j.c = [] → j.args = i.args → j.old = some r.tr → Safe j.changed p →
    run ds .upd p j = .ok (ided r.tr) := by
  intro m p i r h j hc ha ho hs
  induction p using Prog.ind generalizing m i r j with
  | dist d => exact leaf_id h j hc ha ho
  | static b ih =>
    obtain ⟨env, henv, olds, _, st, v, hb, rfl⟩ := run_static.1 h
    obtain ⟨sta, hb1, hb2, hb3, hb4, hb5⟩ := runBody_id ds b (fun p hp => ih p hp m) i olds env {} st v hb j hc hs {} rfl
    refine run_static.2 ⟨env, ha ▸ henv, st.subs, by simp [ho, staticOlds], sta, v, hb1, ?_⟩
    simp [ided, hb2, hb3, hb4, hb5, ha]
  | vec p q hq ih =>
    obtain ⟨ret, rs, rfl, hre⟩ := run_vec_rerun .upd (fun r => ided r.tr) hq (fun _ => ⟨rfl, rfl, rfl⟩)
      (by decide) h ha
    rw [hre (.inr ⟨_, _, _, ho, List.length_map ..⟩) fun k hk ik jk hr hin hja => ?_, sumW_ided, ha]
    · rfl
    · refine ih m ik _ hr jk ?_ hja ?_ (hin.changed ▸ safe_elem hq hs)
      · rw [hin.c, hc]; rfl
      · rw [hin.old_get ho (by rw [List.length_map]; exact hk), List.getElem_map]
  | switch ps ih =>
    obtain ⟨idx, ba, p, i', r', hsa, hp, hr, hia, _, htr⟩ := run_switch_form h
    obtain ⟨hch, hsl⟩ := hs
    rw [htr] at ho ⊢
    have := ih p (List.mem_of_getElem? hp) m i' r' hr { j with old := some r'.tr, args := ba } hc hia.symm rfl
      (hch ▸ safeL_nth hsl hp)
    exact (run_switch_upd_same ho hch).2 ⟨ba, ha ▸ hsa, _, runNth_ok.2 ⟨p, hp, this⟩, by rw [ha]; rfl⟩
  | mask p ih =>
    obtain ⟨check, iargs, i', r', hma, hr, hia, _, htr⟩ := run_mask_form h
    rw [htr] at ho ⊢
    have h1 := ih m i' r' hr { j with old := some r'.tr, args := .tup iargs } hc hia.symm rfl hs
    refine (run_mask_upd ho).2 ⟨check, iargs, ha ▸ hma, _, h1, ?_⟩
    cases check <;> simp [ided, CMap.maskAll]
  | dimap pre p post ih =>
    obtain ⟨as, has, ia, hia, o, _, r', hr, rv, hrv, rfl⟩ := run_dimap.1 h
    have h1 := ih m _ r' hr { j with old := some r'.tr, args := .tup ia } hc rfl rfl hs
    exact run_dimap.2 ⟨as, ha ▸ has, ia, hia, some r'.tr, by simp [ho, dimapOld], _, h1, rv, by simpa [ha, ided] using hrv,
      by simp [ided, ha]⟩

theorem upd_id_nth (ds : DistSem) : ∀ (m : Mode) (ps : List Prog) (k : Nat) (i : In) (r : Res),
    runNth ds m ps k i = .ok r →
    ∀ j : In, j.c = [] → j.args = i.args → j.old = some r.tr → SafeL j.changed ps →
    runNth ds .upd ps k j = .ok (ided r.tr) := by
  intro m _ _ i r h j hc ha ho hs
  obtain ⟨p, hp, hr⟩ := runNth_ok.1 h
  exact runNth_ok.2 ⟨p, hp, upd_id ds m p i r hr j hc ha ho (safeL_nth hs hp)⟩

theorem upd_id_body (ds : DistSem) : ∀ (m : Mode) (b : Body) (i : In) (olds env) (st st' : SState) (v : Val),
    runBody ds m b i olds env st = .ok (st', v) →
    ∀ j : In, j.c = [] → SafeBody j.changed b → ∀ (sta : SState), sta.subs = st.subs →
    ∃ sta', runBody ds .upd b j st'.subs env sta = .ok (sta', v) ∧ sta'.subs = st'.subs ∧
      sta'.w = sta.w ∧ sta'.bwd = sta.bwd ∧ sta'.bwdOk = sta.bwdOk := fun m b =>
  runBody_id ds b fun p _ => upd_id ds m p

end GenjaxVerif.GFI
