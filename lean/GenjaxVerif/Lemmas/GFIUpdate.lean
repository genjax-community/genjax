import GenjaxVerif.Lemmas.GFISafe
import GenjaxVerif.Model.Derived
/-! Edits weigh by the score change: `Update` (whenever no fresh trace is drawn, i.e. no switch is reached with its
    index tagged changed), `Regenerate` and `StaticRequest`.  One pass of an edit handler over a static body is handled
    once, for the `StaticRequest` handler, of which the `Update` and `Regenerate` handlers are instances.  Then what the
    calls of such a pass are (`reqBody_calls`) and what an `IndexRequest` on a vmap or a scan does (`vmap_index_edit`,
    `scan_index_edit`). -/
namespace GenjaxVerif.GFI
open GenjaxVerif

theorem bindOld_regen (olds : List (List String × Trace)) (addr : List String) :
    bindOld .regen olds addr = bindOld .upd olds addr := rfl

/-- The request handler reads only the key and the change flag of its own input. -/
theorem reqBody_eq_runBody_of (ds : DistSem) (m : Mode) (hm : m = .upd ∨ m = .regen) (i j : In) (hk : i.key = j.key)
    (hc : i.changed = j.changed) (olds : List (List String × Trace)) (b : Body) (env : List Val) (st : SState) :
    reqBody ds (fun a => ⟨m, j.c.subStatic a, j.sel.subs a⟩) b i olds env st = runBody ds m b j olds env st := by
  induction b using Body.ind generalizing env st with
  | ret e => simp only [reqBody, runBody]
  | bind addr p aes rest ih =>
    have hassess : (m == Mode.assess) = false := by rcases hm with rfl | rfl <;> rfl
    have hold : bindOld m olds addr = bindOld .upd olds addr := by rcases hm with rfl | rfl <;> rfl
    simp only [reqBody, runBody, bindIn, hk, hc, hassess, hold, Bool.false_and, Bool.false_eq_true, if_false]
    -- both sides now make the same tests in the same order
    refine bind_congr fun a => ?_
    cases (lookupSub st.subs addr).isSome with
    | true => rfl
    | false =>
      cases bindOld .upd olds addr with
      | error e => rfl
      | ok o => exact bind_congr fun r => ih _ _

theorem reqBody_eq_runBody (ds : DistSem) (m : Mode) (hm : m = .upd ∨ m = .regen) (i : In)
    (olds : List (List String × Trace)) :
    ∀ (b : Body) (env : List Val) (st : SState),
      reqBody ds (fun a => ⟨m, i.c.subStatic a, i.sel.subs a⟩) b i olds env st = runBody ds m b i olds env st :=
  reqBody_eq_runBody_of ds m hm i i rfl rfl olds

/-- One pass of an edit handler over a body whose previous subtraces `olds` have the body's shape.  The addresses
    recorded so far are those of the consumed prefix `pre` of `olds`, so the lookup of the next address finds the head
    of the rest: each call is edited against its own previous subtrace. -/
theorem reqBody_inv {ds req i olds} {I : List (List String × Trace) → SState → Prop} (b : Body)
    {env st st' v pre suf} (h : reqBody ds req b i olds env st = .ok (st', v)) (ho : olds = pre ++ suf)
    (hs : ShapeBody b suf) (hk : st.subs.map (·.1) = pre.map (·.1)) (hI : I pre st)
    (step : ∀ p ∈ Body.progs b, ∀ pre st addr t a r, I pre st → Shape p t →
      run ds (req addr).mode p { i with c := (req addr).c, sel := (req addr).sel, old := some t,
                                        key := i.key.child st.counter, args := .tup a } = .ok r →
      I (pre ++ [(addr, t)]) (bindOut st addr r)) :
    I olds st' := by
  induction b using Body.ind generalizing env st pre suf with
  | ret e =>
    simp only [reqBody, bind_eq_ok, pure_eq_ok, Prod.mk.injEq] at h
    obtain ⟨_, _, rfl, _⟩ := h
    cases hs
    rw [ho, List.append_nil]
    exact hI
  | bind addr p aes rest ih =>
    simp only [reqBody, bind_eq_ok, ite_error_eq_ok, Option.not_isSome_iff_eq_none] at h
    obtain ⟨a, _, hn, o, ho', r, hr, h'⟩ := h
    obtain ⟨t, suf', rfl, hst, hrest⟩ := shapeBody_bind.1 hs
    have hl : lookupSub olds addr = some t := ho ▸ lookupSub_append_hit (lookupSub_none_of_keys hk hn)
    obtain ⟨_, hl', rfl⟩ := bindOld_upd.1 ho'
    cases hl.symm.trans hl'
    exact ih h' (by rw [ho, List.append_assoc]; rfl) hrest (by simp [bindOut, hk])
      (step p (List.mem_cons_self ..) _ _ _ _ _ _ hI hst hr) fun q hq => step q (List.mem_cons_of_mem _ hq)

theorem runBody_edit_inv {ds m i olds} (hm : m = .upd ∨ m = .regen)
    {I : List (List String × Trace) → SState → Prop} (b : Body) {env st st' v pre suf}
    (h : runBody ds m b i olds env st = .ok (st', v)) (ho : olds = pre ++ suf) (hs : ShapeBody b suf)
    (hk : st.subs.map (·.1) = pre.map (·.1)) (hI : I pre st)
    (step : ∀ p ∈ Body.progs b, ∀ pre st addr t a r, I pre st → Shape p t →
      run ds m p { i with c := i.c.subStatic addr, sel := i.sel.subs addr, old := some t,
                          key := i.key.child st.counter, args := .tup a } = .ok r →
      I (pre ++ [(addr, t)]) (bindOut st addr r)) : I olds st' :=
  reqBody_inv b (reqBody_eq_runBody ds m hm i olds b env st ▸ h) ho hs hk hI step

theorem leaf_edit_w {ds m d i r told} (hm : m = .upd ∨ m = .regen) (h : leaf ds m d i = .ok r)
    (ho : i.old = some told) : r.w = r.tr.score - told.score := by
  obtain ⟨_, _, _, _, ho'⟩ := leaf_edit_old hm h
  cases ho.symm.trans ho'
  rcases hm with rfl | rfl
  · cases (leaf_upd ho).symm.trans h; rfl
  · cases (leaf_regen ho).symm.trans h; cases i.sel.check <;> rfl

theorem edit_w_step {pre : List (List String × Trace)} {st : SState} {addr t r}
    (hI : st.w = Trace.scoreAL st.subs - Trace.scoreAL pre) (hr : r.w = r.tr.score - t.score) :
    (bindOut st addr r).w = Trace.scoreAL (bindOut st addr r).subs - Trace.scoreAL (pre ++ [(addr, t)]) := by
  simp only [bindOut, scoreAL_append, Trace.scoreAL, hI, hr, Int.add_zero]
  exact sub_add_sub ..

theorem edit_w (ds : DistSem) : ∀ (p : Prog) (m : Mode) (i : In) (r : Res) (told : Trace), m = .upd ∨ m = .regen →
    run ds m p i = .ok r → i.old = some told → Shape p told → (m = .upd → Safe i.changed p) →
    r.w = r.tr.score - told.score := by
  intro p m i r told hm h ho hs hsafe
  induction p using Prog.ind generalizing m i r told with
  | dist d => exact leaf_edit_w hm h ho
  | static b ih =>
    obtain ⟨env, _, olds, holds, st, v, hb, rfl⟩ := run_static.1 h
    obtain ⟨a, rt, rfl⟩ := staticOlds_edit hm (ho ▸ holds)
    exact runBody_edit_inv (I := fun pre st => st.w = Trace.scoreAL st.subs - Trace.scoreAL pre) hm b hb rfl hs rfl
      (by simp [Trace.scoreAL]) fun p hp _ _ _ t _ r hI hst hr =>
        edit_w_step hI (ih p hp m _ r t hm hr rfl hst fun hu => safeBody_mem (hsafe hu) p hp)
  | vec p q hq ih =>
    obtain ⟨ret, rs, rfl, hlen, hel⟩ := run_vec hq h
    obtain ⟨a, rt, es, rfl⟩ := shape_vec_inv hq hs
    refine sumW_sub (checkOldLen_vec ho hlen).symm fun k h1 h2 => ?_
    obtain ⟨ik, hin, hr⟩ := hel k h1
    exact ih m ik _ _ hm hr (hin.old_get ho h2) ((shape_vec hq).1 hs _ (List.getElem_mem h2))
      (fun hu => hin.changed ▸ hu ▸ safe_elem hq (hsafe hu))
  | switch ps ih =>
    rcases hm with rfl | rfl
    · obtain ⟨a, idx, osub, p, ba, r', rfl, hp, hsp, hsf, hch, hr, rfl⟩ := run_switch_upd_safe h ho hs (hsafe rfl)
      exact ih p (List.mem_of_getElem? hp) .upd _ r' osub (.inl rfl) hr rfl hsp fun _ => hch ▸ hsf
    · exact absurd h run_switch_regen
  | mask p ih =>
    rcases hm with rfl | rfl
    · obtain ⟨pre, inner, ho'⟩ := run_mask_upd_old h
      cases ho.symm.trans ho'
      obtain ⟨check, iargs, _, r', hr, rfl⟩ := (run_mask_upd ho).1 h
      have := ih .upd _ r' inner (.inl rfl) hr rfl hs hsafe
      -- the four flag transitions: f→f, f→t, t→f, t→t
      cases pre <;> cases check
      · rfl
      · exact (Int.sub_zero _).symm
      · exact (Int.zero_sub _).symm
      · exact this
    · exact absurd h run_mask_regen
  | dimap pre p post ih =>
    obtain ⟨as, _, ia, _, o, ho', r', hr, rv, _, rfl⟩ := run_dimap.1 h
    obtain ⟨a, rt, inner, rfl, rfl⟩ := dimapOld_edit hm (ho ▸ ho')
    exact ih m _ r' inner hm hr rfl hs hsafe

theorem edit_w_body (ds : DistSem) {m} (hm : m = .upd ∨ m = .regen) (b : Body) {i olds env st st' v pre suf}
    (h : runBody ds m b i olds env st = .ok (st', v)) (ho : olds = pre ++ suf) (hs : ShapeBody b suf)
    (hk : st.subs.map (·.1) = pre.map (·.1)) (hw : st.w = Trace.scoreAL st.subs - Trace.scoreAL pre)
    (hsafe : m = .upd → SafeBody i.changed b) : st'.w = Trace.scoreAL st'.subs - Trace.scoreAL olds :=
  runBody_edit_inv (I := fun pre st => st.w = Trace.scoreAL st.subs - Trace.scoreAL pre) hm b h ho hs hk hw
    fun p hp _ _ _ t _ r hI hst hr =>
      edit_w_step hI (edit_w ds p m _ r t hm hr rfl hst fun hu => safeBody_mem (hsafe hu) p hp)

theorem upd_w (ds : DistSem) : ∀ (p : Prog) (i : In) (r : Res) (told : Trace),
    run ds .upd p i = .ok r → i.old = some told → Shape p told → Safe i.changed p →
    r.w = r.tr.score - told.score := fun p i r told h ho hs hsafe =>
  edit_w ds p .upd i r told (.inl rfl) h ho hs fun _ => hsafe

theorem upd_w_nth (ds : DistSem) : ∀ (ps : List Prog) (k : Nat) (i : In) (r : Res) (told : Trace),
    runNth ds .upd ps k i = .ok r → i.old = some told → ShapeNth ps k told → SafeL i.changed ps →
    r.w = r.tr.score - told.score := by
  intro _ _ i r told h ho hs hsafe
  obtain ⟨p, hp, hr, hsp⟩ := runNth_shape h hs
  exact upd_w ds p i r told hr ho hsp (safeL_nth hsafe hp)

theorem upd_w_body (ds : DistSem) : ∀ (b : Body) (i : In) (olds env) (st st' : SState) (v : Val)
    (pre suf : List (List String × Trace)),
    runBody ds .upd b i olds env st = .ok (st', v) → olds = pre ++ suf → ShapeBody b suf →
    st.subs.map (·.1) = pre.map (·.1) → st.w = Trace.scoreAL st.subs - Trace.scoreAL pre →
    SafeBody i.changed b →
    st'.w = Trace.scoreAL st'.subs - Trace.scoreAL olds := fun b _ _ _ _ _ _ _ _ h ho hs hk hw hsafe =>
  edit_w_body ds (.inl rfl) b h ho hs hk hw fun _ => hsafe

theorem regen_w (ds : DistSem) : ∀ (p : Prog) (i : In) (r : Res) (told : Trace),
    run ds .regen p i = .ok r → i.old = some told → Shape p told →
    r.w = r.tr.score - told.score := fun p i r told h ho hs =>
  edit_w ds p .regen i r told (.inr rfl) h ho hs nofun

theorem regen_w_nth (ds : DistSem) : ∀ (ps : List Prog) (k : Nat) (i : In) (r : Res) (told : Trace),
    runNth ds .regen ps k i = .ok r → i.old = some told → ShapeNth ps k told →
    r.w = r.tr.score - told.score := by
  intro _ _ i r told h ho hs
  obtain ⟨p, _, hr, hsp⟩ := runNth_shape h hs
  exact regen_w ds p i r told hr ho hsp

theorem regen_w_body (ds : DistSem) : ∀ (b : Body) (i : In) (olds env) (st st' : SState) (v : Val)
    (pre suf : List (List String × Trace)),
    runBody ds .regen b i olds env st = .ok (st', v) → olds = pre ++ suf → ShapeBody b suf →
    st.subs.map (·.1) = pre.map (·.1) → st.w = Trace.scoreAL st.subs - Trace.scoreAL pre →
    st'.w = Trace.scoreAL st'.subs - Trace.scoreAL olds := fun b _ _ _ _ _ _ _ _ h ho hs hk hw =>
  edit_w_body ds (.inr rfl) b h ho hs hk hw nofun

theorem staticOlds_regen (o : Option Trace) : staticOlds .regen o = staticOlds .upd o := by
  cases o with
  | none => rfl
  | some t => cases t <;> rfl

/-- The calls one pass of the request handler made, in order: (address, result). -/
def CallsOf (st st' : SState) (calls : List (List String × Res)) : Prop :=
  st'.subs = st.subs ++ calls.map (fun c => (c.1, c.2.tr)) ∧
  st'.w = st.w + (calls.map (·.2.w)).sum ∧
  st'.bwd = st.bwd ++ (calls.map (fun c => CMap.pre (c.1.map Comp.s) c.2.bwd)).flatten

def Body.addrs : Body → List (List String)
  | .ret _ => []
  | .bind a _ _ rest => a :: Body.addrs rest

/-- Every `trace` statement of the body is one call, edited by the entry at its own address, and the
    handler's trace / weight / backward request are those calls' traces / weights / backward requests
    in the same order and under the same addresses. -/
theorem reqBody_calls (ds : DistSem) (req : List String → SubReq) :
    ∀ (b : Body) (i : In) (olds env) (st st' : SState) (v : Val),
      reqBody ds req b i olds env st = .ok (st', v) →
      ∃ calls : List (List String × Res), calls.map (·.1) = Body.addrs b ∧ CallsOf st st' calls := by
  intro b
  induction b using Body.ind with
  | ret e =>
    intro i olds env st st' v h
    simp only [reqBody, bind_eq_ok, pure_eq_ok, Prod.mk.injEq] at h
    obtain ⟨_, _, rfl, _⟩ := h
    exact ⟨[], rfl, by simp [CallsOf]⟩
  | bind addr p aes rest ih =>
    intro i olds env st st' v h
    simp only [reqBody, bind_eq_ok, ite_error_eq_ok] at h
    obtain ⟨a, _, _, o, _, r, hr, h'⟩ := h
    obtain ⟨calls, hc, hs, hw, hb⟩ := ih i olds _ _ st' v h'
    refine ⟨(addr, r) :: calls, by simp [Body.addrs, hc], ?_, ?_, ?_⟩
    · simpa [bindOut] using hs
    · rw [hw, List.map_cons, List.sum_cons]; exact Int.add_assoc ..
    · simpa [bindOut] using hb

/-- The weight of a `StaticRequest` is new score − old score (no switch with a changed index inside, as for `Update`). -/
theorem reqBody_w (ds : DistSem) (req : List String → SubReq) (hmode : ∀ a, (req a).mode = .upd ∨ (req a).mode = .regen) :
    ∀ (b : Body) (i : In) (olds env) (st st' : SState) (v : Val)
    (pre suf : List (List String × Trace)),
    reqBody ds req b i olds env st = .ok (st', v) → olds = pre ++ suf → ShapeBody b suf →
    st.subs.map (·.1) = pre.map (·.1) → st.w = Trace.scoreAL st.subs - Trace.scoreAL pre →
    SafeBody i.changed b →
    st'.w = Trace.scoreAL st'.subs - Trace.scoreAL olds := fun b _ _ _ _ _ _ _ _ h ho hs hk hw hsafe =>
  reqBody_inv (I := fun pre st => st.w = Trace.scoreAL st.subs - Trace.scoreAL pre) b h ho hs hk hw
    fun p hp _ _ addr t _ r hI hst hr =>
      edit_w_step hI (edit_w ds p (req addr).mode _ r t (hmode addr) hr rfl hst fun _ => safeBody_mem hsafe p hp)

theorem scoreL_set (ts : List Trace) (k : Nat) (t : Trace) (hk : k < ts.length) :
    Trace.scoreL (ts.set k t) - Trace.scoreL ts = t.score - ts[k].score := by
  induction ts generalizing k with
  | nil => cases hk
  | cons x xs ih =>
    cases k with
    | zero => exact Int.add_sub_add_right ..
    | succ k => exact (Int.add_sub_add_left ..).trans (ih k (Nat.lt_of_succ_lt_succ hk))

theorem nthElem_ok {elems : List Trace} {k : Nat} {t : Trace} (h : nthElem elems k = .ok t) :
    ∃ hk : k < elems.length, elems[k] = t := by
  unfold nthElem at h
  split at h
  · next x he => cases h; exact List.getElem?_eq_some_iff.1 he
  · cases h

/-- `Vmap.edit_index`; what it says is spelt out at `C11_index_request_edits_one_element`. -/
theorem vmap_index_edit (ds : DistSem) (m : Mode) (p : Prog) (axes : List Ax) (key : KeyPath)
    (args ret : Val) (elems : List Trace) (idx : Nat) (c : CMap) (sel : Sel) (r : Res)
    (h : editIndex ds m (.vmap p axes) key (.vec args ret elems) idx c sel = .ok r) :
    ∃ (hk : idx < elems.length) (as ea : List Val) (r' : Res), argList args = .ok as ∧ sliceArgs axes as idx = .ok ea ∧
      run ds m p { c, sel, old := some elems[idx], key, args := .tup ea } = .ok r' ∧
      r.tr = .vec args (.arr ((elems.set idx r'.tr).map (·.ret))) (elems.set idx r'.tr) ∧
      r.w = r'.w ∧ r.bwd = CMap.pre [.i idx] r'.bwd := by
  obtain ⟨as, has, h⟩ := bind_eq_ok.1 h
  obtain ⟨ea, hea, h⟩ := bind_eq_ok.1 h
  obtain ⟨old, hold, h⟩ := bind_eq_ok.1 h
  obtain ⟨hk, rfl⟩ := nthElem_ok hold
  obtain ⟨r', hr', h⟩ := bind_eq_ok.1 h
  cases h
  exact ⟨hk, as, ea, r', has, hea, hr', rfl, rfl, rfl⟩

/-- `Scan.edit_index`; what it says is spelt out at `C12_index_edit`. -/
theorem scan_index_edit (ds : DistSem) (m : Mode) (p : Prog) (len : Option Nat) (key : KeyPath)
    (args oldFin : Val) (ys : List Val) (elems : List Trace) (idx : Nat) (c : CMap) (sel : Sel) (r : Res)
    (h : editIndex ds m (.scan p len) key (.vec args (.tup [oldFin, .arr ys]) elems) idx c sel = .ok r) :
    ∃ (hk : idx < elems.length) (r' : Res) (carry' y' : Val),
      run ds m p { c, sel, old := some elems[idx], key, args := elems[idx].args } = .ok r' ∧
      r'.tr.ret = .tup [carry', y'] ∧ r.bwd = CMap.pre [.i idx] r'.bwd ∧
      ((h1 : idx + 1 < elems.length) → ∃ (rn : Res) (x carryOld : Val), elems[idx + 1].args = .tup [carryOld, x] ∧
          run ds .upd p { c := [], sel := .none, old := some elems[idx + 1], key, args := .tup [carry', x] } = .ok rn ∧
          rn.tr.ret.beq elems[idx + 1].ret = true ∧
          r.tr = .vec args (.tup [oldFin, .arr (ys.set idx y')]) ((elems.set idx r'.tr).set (idx + 1) rn.tr) ∧
          r.w = r'.w + rn.w) ∧
      (¬ idx + 1 < elems.length →
          r.tr = .vec args (.tup [carry', .arr (ys.set idx y')]) (elems.set idx r'.tr) ∧ r.w = r'.w) := by
  obtain ⟨old, hold, h⟩ := bind_eq_ok.1 h
  obtain ⟨hk, rfl⟩ := nthElem_ok hold
  obtain ⟨r', hr', h⟩ := bind_eq_ok.1 h
  -- the rest of the `do` block sits in a local function applied in both arms of the match on `r'.tr.ret`
  dsimp only at h
  split at h
  · next carry' y' hret =>
    obtain ⟨_, hp, h⟩ := bind_eq_ok.1 h
    cases hp
    dsimp only at h
    by_cases h1 : idx + 1 < elems.length
    · rw [if_pos h1] at h
      obtain ⟨next, hnext, h⟩ := bind_eq_ok.1 h
      obtain ⟨_, rfl⟩ := nthElem_ok hnext
      split at h
      · next carryOld x hargs =>
        obtain ⟨_, hp, h⟩ := bind_eq_ok.1 h
        cases hp
        obtain ⟨rn, hrn, h⟩ := bind_eq_ok.1 h
        split at h
        · cases h
        · next hbeq =>
          cases h
          exact ⟨hk, r', carry', y', hr', hret, rfl,
            fun _ => ⟨rn, x, carryOld, hargs, hrn, by simpa using hbeq, rfl, rfl⟩, fun h => absurd h1 h⟩
      · cases h
    · rw [if_neg h1] at h
      cases h
      exact ⟨hk, r', carry', y', hr', hret, rfl, fun h => absurd h h1, fun _ => ⟨rfl, rfl⟩⟩
  · cases h

end GenjaxVerif.GFI
