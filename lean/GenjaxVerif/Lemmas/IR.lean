import GenjaxVerif.Model.IR
import GenjaxVerif.Lemmas.Except
/-!
  Lemmas for model D.  Relations on `Except` computations (`ExRel`: same error or related results; `OkRel`:
  related if both succeed), environments related cell by cell (`EnvRel R`), and three simulations, each a
  step, a loop and a whole-program lemma: incremental ~ stateful (`PrimalIs`), incremental ~ incremental on
  agreeing inputs (`IVal.simP`), stateful ~ reference evaluator (`Agree`).
-/
namespace GenjaxVerif.IR

inductive All₂ {α β : Type} (R : α → β → Prop) : List α → List β → Prop where
  | nil : All₂ R [] []
  | cons {a b as bs} : R a b → All₂ R as bs → All₂ R (a :: as) (b :: bs)

def ExRel {α β : Type} (R : α → β → Prop) : Except Err α → Except Err β → Prop
  | .ok a, .ok b => R a b
  | .error x, .error y => x = y
  | _, _ => False

def OkRel {α β : Type} (R : α → β → Prop) (x : Except Err α) (y : Except Err β) : Prop :=
  ∀ a b, x = .ok a → y = .ok b → R a b

def OptRel {α β : Type} (R : α → β → Prop) : Option α → Option β → Prop
  | some a, some b => R a b
  | none, none => True
  | _, _ => False

def EnvRel {α β : Type} (R : α → β → Prop) (e1 : Env α) (e2 : Env β) : Prop :=
  ∀ n, OptRel R (e1.lookup n) (e2.lookup n)

/-- Noninterference relation between the cells of two incremental runs: same
    representation, same tag, and equal values whenever the tag is `NoChange`
    (a raw cell counts as `NoChange`). -/
def IVal.sim : IVal → IVal → Prop
  | .raw v, .raw w => v = w
  | .diff v t, .diff w u => t = u ∧ (t = .noChange → v = w)
  | _, _ => False

/-- Two argument vectors agree wherever the tag is `NoChange` (and have the tags' length). -/
def AgreeOn : List Tag → List Val → List Val → Prop
  | [], [], [] => True
  | t :: ts, x :: xs, y :: ys => (t = .noChange → x = y) ∧ AgreeOn ts xs ys
  | _, _, _ => False

def NoHandle {α} (h : Option (Handler α)) : Prop := ∀ h', h = some h' → ∀ p, h'.handles p = false

/-- The semantics the stateful interpreter sees under a handler. -/
def Handler.override (h : Handler Val) (sem : Sem) : Sem :=
  fun p ps vs => if h.handles p then h.dispatch p ps vs else sem p ps vs

theorem All₂.length_eq {α β} {R : α → β → Prop} {l1 l2} (h : All₂ R l1 l2) : l1.length = l2.length := by
  induction h with
  | nil => rfl
  | cons _ _ ih => rw [List.length_cons, List.length_cons, ih]

theorem All₂.mono {α β} {R S : α → β → Prop} (hRS : ∀ a b, R a b → S a b) {l1 l2} (h : All₂ R l1 l2) :
    All₂ S l1 l2 := by
  induction h with
  | nil => exact .nil
  | cons hab _ ih => exact .cons (hRS _ _ hab) ih

theorem All₂.map {α β γ δ} {R : α → β → Prop} {S : γ → δ → Prop} {f : α → γ} {g : β → δ}
    (hfg : ∀ a b, R a b → S (f a) (g b)) {l1 l2} (h : All₂ R l1 l2) : All₂ S (l1.map f) (l2.map g) := by
  induction h with
  | nil => exact .nil
  | cons hab _ ih => exact .cons (hfg _ _ hab) ih

/-- Lists of the same length, as an `All₂`: induction on it walks the two lists in step. -/
theorem All₂.of_length {α β} {l1 : List α} {l2 : List β} (h : l1.length = l2.length) :
    All₂ (fun _ _ => True) l1 l2 := by
  induction l1 generalizing l2 with
  | nil =>
    cases l2 with
    | nil => exact .nil
    | cons _ _ => cases h
  | cons _ _ ih =>
    cases l2 with
    | nil => cases h
    | cons _ _ => exact .cons trivial (ih (Nat.succ.inj h))

theorem All₂.get? {α β} {R : α → β → Prop} {l1 l2} (h : All₂ R l1 l2) (i : Nat) :
    OptRel R l1[i]? l2[i]? := by
  induction h generalizing i with
  | nil => exact trivial
  | cons hab _ ih =>
    cases i with
    | zero => exact hab
    | succ i => exact ih i

theorem All₂.map_eq {α β} {R : α → β → Prop} {f : α → β} (hR : ∀ a b, R a b → f a = b) {l1 l2}
    (h : All₂ R l1 l2) : l1.map f = l2 := by
  induction h with
  | nil => rfl
  | cons hab _ ih => rw [List.map_cons, hR _ _ hab, ih]

theorem All₂.map_same {α γ δ} {S : γ → δ → Prop} {f : α → γ} {g : α → δ} (hS : ∀ a, S (f a) (g a)) (l : List α) :
    All₂ S (l.map f) (l.map g) := by
  induction l with
  | nil => exact .nil
  | cons a as ih => exact .cons (hS a) ih

theorem All₂.map_left {α β} {R : β → α → Prop} {f : α → β} (hf : ∀ a, R (f a) a) (l : List α) :
    All₂ R (l.map f) l := by
  induction l with
  | nil => exact .nil
  | cons a as ih => exact .cons (hf a) ih

theorem All₂.eq_of_eq {α} {l1 l2 : List α} (h : All₂ (· = ·) l1 l2) : l1 = l2 := by
  rw [← All₂.map_eq (f := id) (fun _ _ hab => hab) h, List.map_id]

theorem All₂.forall_left {α β} {R : α → β → Prop} {Q : α → Prop} (hRQ : ∀ a b, R a b → Q a) {l1 l2}
    (h : All₂ R l1 l2) : ∀ a ∈ l1, Q a := by
  induction h with
  | nil => intro a ha; cases ha
  | cons hab _ ih =>
    intro a ha
    cases ha with
    | head => exact hRQ _ _ hab
    | tail _ hm => exact ih a hm

theorem ExRel.bind {α β γ δ} {R : α → β → Prop} {S : γ → δ → Prop}
    {x : Except Err α} {y : Except Err β} {f : α → Except Err γ} {g : β → Except Err δ}
    (hxy : ExRel R x y) (hfg : ∀ a b, R a b → ExRel S (f a) (g b)) : ExRel S (x >>= f) (y >>= g) := by
  cases x <;> cases y
  · exact hxy
  · exact hxy.elim
  · exact hxy.elim
  · exact hfg _ _ hxy

theorem ExRel.refl {α} {R : α → α → Prop} (hr : ∀ a, R a a) (x : Except Err α) : ExRel R x x := by
  cases x with
  | error _ => exact rfl
  | ok a => exact hr a

theorem ExRel.bind_same {α γ δ} {S : γ → δ → Prop} (x : Except Err α) {f : α → Except Err γ}
    {g : α → Except Err δ} (hfg : ∀ a, ExRel S (f a) (g a)) : ExRel S (x >>= f) (x >>= g) :=
  ExRel.bind (ExRel.refl (R := (· = ·)) (fun _ => rfl) x) fun a _ hab => hab ▸ hfg a

theorem ExRel.bind_left {α β γ δ} {R : α → β → Prop} {S : γ → δ → Prop} {x : Except Err α} {b : β}
    {f : α → Except Err γ} {y : Except Err δ} (hx : ExRel R x (.ok b)) (hf : ∀ a, R a b → ExRel S (f a) y) :
    ExRel S (x >>= f) y := by
  cases x with
  | error _ => exact hx.elim
  | ok a => exact hf a hx

theorem ExRel.toOk {α β} {R : α → β → Prop} {x : Except Err α} {y : Except Err β}
    (h : ExRel R x y) : OkRel R x y := by
  intro a b hx hy; subst hx hy; exact h

theorem ExRel.map_eq {α β} {R : α → β → Prop} {f : α → β} (hR : ∀ a b, R a b → f a = b) {x : Except Err α}
    {y : Except Err β} (h : ExRel R x y) : x.map f = y := by
  cases x <;> cases y
  · exact congrArg Except.error h
  · exact h.elim
  · exact h.elim
  · exact congrArg Except.ok (hR _ _ h)

theorem ExRel.eq {α} {x y : Except Err α} (h : ExRel (· = ·) x y) : x = y := by
  have := ExRel.map_eq (f := id) (fun _ _ hab => hab) h
  rwa [show x.map id = x from by cases x <;> rfl] at this

theorem OkRel.bind {α β γ δ} {R : α → β → Prop} {S : γ → δ → Prop}
    {x : Except Err α} {y : Except Err β} {f : α → Except Err γ} {g : β → Except Err δ}
    (hxy : OkRel R x y) (hfg : ∀ a b, R a b → OkRel S (f a) (g b)) : OkRel S (x >>= f) (y >>= g) := by
  intro c d hc hd
  cases x with
  | error e => cases hc
  | ok a =>
    cases y with
    | error e => cases hd
    | ok b => exact hfg a b (hxy a b rfl rfl) c d hc hd

theorem OkRel.map {α β γ δ : Type} {S : γ → δ → Prop} {F : α → γ} {G : β → δ} (h : ∀ a b, S (F a) (G b))
    (x : Except Err α) (y : Except Err β) : OkRel S (x.map F) (y.map G) := by
  intro c d hc hd
  obtain ⟨a, _, rfl⟩ := map_eq_ok.1 hc
  obtain ⟨b, _, rfl⟩ := map_eq_ok.1 hd
  exact h a b

theorem Env.lookup_set {α} (e : Env α) (n m : Nat) (c : α) :
    (e.set n c).lookup m = if n = m then some c else e.lookup m := by
  fun_induction Env.set e n c with
  | case1 => rfl
  | case2 v rest =>
    -- the cell of `n` is replaced in place
    rw [Env.lookup, Env.lookup]
    by_cases hm : n = m
    · rw [if_pos hm, if_pos hm]
    · rw [if_neg hm, if_neg hm, if_neg hm]
  | case3 k v rest hk ih =>
    rw [Env.lookup, Env.lookup, ih]
    by_cases hm : k = m
    · rw [if_pos hm, if_pos hm, if_neg (hm ▸ Ne.symm hk)]
    · rw [if_neg hm, if_neg hm]

theorem Env.writeMany_ok {α} {e e' : Env α} {bs : List Binder} {vs : List α}
    (h : e.writeMany bs vs = .ok e') : bs.length = vs.length ∧ e' = e.writeAll bs vs := by
  unfold Env.writeMany at h
  by_cases hl : bs.length = vs.length
  · rw [if_pos hl] at h; exact ⟨hl, (Except.ok.inj h).symm⟩
  · rw [if_neg hl] at h; cases h

theorem Env.writeMany_error {α} {e : Env α} {bs : List Binder} {vs : List α} {x : Err}
    (h : e.writeMany bs vs = .error x) : x = .arity := by
  unfold Env.writeMany at h
  split at h
  · cases h
  · exact (Except.error.inj h).symm

theorem Env.writeMany_cons {α} (e : Env α) (b : Binder) (bs : List Binder) (v : α) (vs : List α) :
    e.writeMany (b :: bs) (v :: vs) = (e.write b v).writeMany bs vs :=
  ite_congr (Nat.succ.injEq ..) (fun _ => rfl) fun _ => rfl

theorem EnvRel.nil {α β} (R : α → β → Prop) : EnvRel R ([] : Env α) ([] : Env β) :=
  fun _ => trivial

theorem EnvRel.write {α β} {R : α → β → Prop} {e1 : Env α} {e2 : Env β} (he : EnvRel R e1 e2)
    (b : Binder) {a : α} {c : β} (hac : R a c) : EnvRel R (e1.write b a) (e2.write b c) := by
  cases b with
  | drop => exact he
  | var n =>
    intro m
    simp only [Env.write, Env.lookup_set]
    by_cases h : n = m
    · rw [if_pos h, if_pos h]; exact hac
    · rw [if_neg h, if_neg h]; exact he m

theorem EnvRel.writeAll {α β} {R : α → β → Prop} {vs1 : List α} {vs2 : List β} (hv : All₂ R vs1 vs2) :
    ∀ {e1 : Env α} {e2 : Env β} (_ : EnvRel R e1 e2) (bs : List Binder),
      EnvRel R (e1.writeAll bs vs1) (e2.writeAll bs vs2) := by
  induction hv with
  | nil => intro e1 e2 he bs; cases bs <;> exact he
  | cons hab _ ih =>
    intro e1 e2 he bs
    cases bs with
    | nil => exact he
    | cons b bs => exact ih (he.write b hab) bs

theorem EnvRel.writeMany {α β} {R : α → β → Prop} {vs1 : List α} {vs2 : List β} (hv : All₂ R vs1 vs2)
    {e1 : Env α} {e2 : Env β} (he : EnvRel R e1 e2) (bs : List Binder) :
    ExRel (EnvRel R) (e1.writeMany bs vs1) (e2.writeMany bs vs2) := by
  unfold Env.writeMany
  rw [← hv.length_eq]
  by_cases h : bs.length = vs1.length
  · rw [if_pos h, if_pos h]; exact EnvRel.writeAll hv he bs
  · rw [if_neg h, if_neg h]; exact rfl

/-- Two writes that both succeed wrote as many cells as there are binders, so the values need to be
    related only if there are equally many of them. -/
theorem EnvRel.writeMany_ok {α β} {R : α → β → Prop} {vs1 : List α} {vs2 : List β}
    (hv : vs1.length = vs2.length → All₂ R vs1 vs2) {e1 : Env α} {e2 : Env β} (he : EnvRel R e1 e2)
    (bs : List Binder) : OkRel (EnvRel R) (e1.writeMany bs vs1) (e2.writeMany bs vs2) := by
  intro e1' e2' h1 h2
  obtain ⟨hl1, rfl⟩ := Env.writeMany_ok h1
  obtain ⟨hl2, rfl⟩ := Env.writeMany_ok h2
  exact EnvRel.writeAll (hv (hl1.symm.trans hl2)) he bs

theorem Env.read_var {α} (ofLit : Val → α) (e : Env α) (n : Nat) :
    e.read ofLit (.var n) = match e.lookup n with
      | some v => .ok v
      | none => .error (.unbound n) := rfl

theorem EnvRel.read {α β} {R : α → β → Prop} {l1 : Val → α} {l2 : Val → β} (hl : ∀ v, R (l1 v) (l2 v))
    {e1 : Env α} {e2 : Env β} (he : EnvRel R e1 e2) (a : Atom) :
    ExRel R (e1.read l1 a) (e2.read l2 a) := by
  cases a with
  | lit v => exact hl v
  | var n =>
    have h := he n
    rw [Env.read_var, Env.read_var]
    revert h
    cases e1.lookup n <;> cases e2.lookup n
    · intro _; exact rfl
    · exact False.elim
    · exact False.elim
    · exact id

theorem Env.readAll_cons {α} (ofLit : Val → α) (e : Env α) (a : Atom) (as : List Atom) :
    e.readAll ofLit (a :: as) = e.read ofLit a >>= fun v => e.readAll ofLit as >>= fun vs => .ok (v :: vs) := by
  rw [Env.readAll]
  cases e.read ofLit a with
  | error _ => rfl
  | ok v => cases e.readAll ofLit as <;> rfl

theorem EnvRel.readAll {α β} {R : α → β → Prop} {l1 : Val → α} {l2 : Val → β} (hl : ∀ v, R (l1 v) (l2 v))
    {e1 : Env α} {e2 : Env β} (he : EnvRel R e1 e2) (as : List Atom) :
    ExRel (All₂ R) (e1.readAll l1 as) (e2.readAll l2 as) := by
  induction as with
  | nil => exact All₂.nil
  | cons a as ih =>
    rw [Env.readAll_cons, Env.readAll_cons]
    exact ExRel.bind (he.read hl a) fun _ _ ha => ExRel.bind ih fun _ _ hs => All₂.cons ha hs

/-! The steps of the interpreters in one shape: read the operands, compute the list of results, write. -/

theorem PrimOut.map_id {α} (o : PrimOut α) : o.map id = o := by
  cases o <;> simp [PrimOut.map]

theorem wrapOuts_map {α β} (f : α → β) (multi : Bool) (out : PrimOut α) :
    wrapOuts multi (out.map f) = (wrapOuts multi out).map (List.map f) := by
  cases out <;> cases multi <;> rfl

theorem stepStateful_eq (sem : Sem) (h : Handler Val) (e : Env Val) (q : Eqn) :
    stepStateful sem h e q = e.readAll id q.ins >>= fun vs =>
      (h.override sem q.prim q.params vs >>= wrapOuts q.multi) >>= e.writeMany q.outs := by
  unfold stepStateful Handler.override
  refine bind_congr fun vs => ?_
  cases h.handles q.prim <;> exact (bind_assoc ..).symm

theorem defaultRule_wrapOuts (sem : Sem) (p : String) (ps : Params) (ds : List IVal) (multi : Bool) :
    defaultRule sem p ps ds >>= wrapOuts multi =
      (sem p ps (ds.map IVal.primal) >>= wrapOuts multi).map
        (List.map fun v => IVal.diff v (if checkNoChange ds then .noChange else .unknownChange)) := by
  unfold defaultRule
  cases sem p ps (ds.map IVal.primal) with
  | error _ => rfl
  | ok out => exact wrapOuts_map _ multi out

theorem stepIncr_eq (sem : Sem) (e : Env IVal) (q : Eqn) :
    stepIncr sem none e q = e.readAll IVal.raw q.ins >>= fun ds =>
      (defaultRule sem q.prim q.params (ds.map IVal.wrap) >>= wrapOuts q.multi) >>= e.writeMany q.outs := by
  simp only [stepIncr, bind_assoc]

theorem stepIncr_none_of_noHandle (sem : Sem) (h : Option (Handler IVal)) (hno : NoHandle h) (e : Env IVal)
    (q : Eqn) : stepIncr sem h e q = stepIncr sem none e q := by
  cases h with
  | none => rfl
  | some h' => simp only [stepIncr, hno h' rfl, Bool.false_eq_true, if_false]

theorem loopIncr_none_of_noHandle (sem : Sem) (h : Option (Handler IVal)) (hno : NoHandle h) (e : Env IVal)
    (qs : List Eqn) : loopIncr sem h e qs = loopIncr sem none e qs := by
  induction qs generalizing e with
  | nil => rfl
  | cons q qs ih => simp only [loopIncr, stepIncr_none_of_noHandle sem h hno, ih]

theorem evalIncr_none_of_noHandle (sem : Sem) (h : Option (Handler IVal)) (hno : NoHandle h) (j : Jaxpr)
    (consts xs : List Val) (tags : List Tag) :
    evalIncr sem h j consts xs tags = evalIncr sem none j consts xs tags := by
  simp only [evalIncr, loopIncr_none_of_noHandle sem h hno]

theorem Handler.override_of_noHandle (sem : Sem) (h : Handler Val) (hno : ∀ p, h.handles p = false) :
    h.override sem = sem := by
  funext p ps vs
  simp only [Handler.override, hno, Bool.false_eq_true, if_false]

def PrimalIs (d : IVal) (v : Val) : Prop := d.primal = v

theorem IVal.primal_wrap (d : IVal) : d.wrap.primal = d.primal := by cases d <;> rfl
theorem IVal.tangent_wrap (d : IVal) : d.wrap.tangent = d.tangent := by cases d <;> rfl

theorem step_primal (sem : Sem) (h : Handler Val) (hno : ∀ p, h.handles p = false) {e1 : Env IVal}
    {e2 : Env Val} (he : EnvRel PrimalIs e1 e2) (q : Eqn) :
    ExRel (EnvRel PrimalIs) (stepIncr sem none e1 q) (stepStateful sem h e2 q) := by
  rw [stepIncr_eq, stepStateful_eq, Handler.override_of_noHandle sem h hno]
  refine ExRel.bind (he.readAll (l1 := IVal.raw) (l2 := id) (fun _ => rfl) q.ins) fun ds vs hdv => ?_
  rw [defaultRule_wrapOuts, List.map_map,
    All₂.map_eq (f := IVal.primal ∘ IVal.wrap) (fun d _ hd => d.primal_wrap.trans hd) hdv]
  refine ExRel.bind ?_ fun _ _ hov => EnvRel.writeMany hov he q.outs
  cases sem q.prim q.params vs >>= wrapOuts q.multi with
  | error _ => exact rfl
  | ok l => exact All₂.map_left (R := PrimalIs) (fun _ => by rfl) l

theorem loop_primal (sem : Sem) (h : Handler Val) (hno : ∀ p, h.handles p = false) (qs : List Eqn) :
    ∀ {e1 : Env IVal} {e2 : Env Val}, EnvRel PrimalIs e1 e2 →
      ExRel (EnvRel PrimalIs) (loopIncr sem none e1 qs) (loopStateful sem h e2 qs) := by
  induction qs with
  | nil => intro e1 e2 he; exact he
  | cons q qs ih => intro e1 e2 he; exact ExRel.bind (step_primal sem h hno he q) fun _ _ he' => ih he'

theorem treeDiff_primal {xs : List Val} {tags : List Tag} (hlen : xs.length = tags.length) :
    ExRel (All₂ PrimalIs) (treeDiff xs tags) (.ok xs) := by
  have hl := All₂.of_length hlen
  clear hlen
  induction hl with
  | nil => exact All₂.nil
  | cons _ _ ih => exact ExRel.bind_left ih fun _ hds => All₂.cons rfl hds

theorem treeDiff_arity {xs : List Val} {tags : List Tag} (h : xs.length ≠ tags.length) :
    treeDiff xs tags = .error .arity := by
  fun_induction treeDiff xs tags with
  | case1 => exact absurd rfl h
  | case2 v vs t ts ih => rw [ih fun hl => h (congrArg Nat.succ hl)]; rfl
  | case3 => rfl

/-! One invariant serves noninterference and "`NoChange` in ⇒ `NoChange` out": the cells of two incremental runs
  are related by `IVal.sim` and, under a side condition `P` (at the end: every input tag is `NoChange`), are all
  `NoChange`. -/

def IVal.simP (P : Prop) (a b : IVal) : Prop := IVal.sim a b ∧ (P → a.tangent = .noChange)

theorem IVal.sim_tangent {a b : IVal} (h : IVal.sim a b) : a.tangent = b.tangent := by
  cases a <;> cases b
  · rfl
  · exact h.elim
  · exact h.elim
  · exact h.1

theorem IVal.sim_primal {a b : IVal} (h : IVal.sim a b) (ht : a.tangent = .noChange) : a.primal = b.primal := by
  cases a <;> cases b
  · exact h
  · exact h.elim
  · exact h.elim
  · exact h.2 ht

theorem IVal.simP_raw (P : Prop) (v : Val) : IVal.simP P (.raw v) (.raw v) := ⟨rfl, fun _ => rfl⟩

theorem IVal.simP_noChange (P : Prop) (v : Val) : IVal.simP P (.diff v .noChange) (.diff v .noChange) :=
  ⟨⟨rfl, fun _ => rfl⟩, fun _ => rfl⟩

theorem IVal.simP_wrap {P} {a b : IVal} (h : IVal.simP P a b) : IVal.simP P a.wrap b.wrap := by
  refine ⟨?_, fun hP => a.tangent_wrap ▸ h.2 hP⟩
  cases a <;> cases b
  · exact ⟨rfl, fun _ => h.1⟩
  · exact h.1.elim
  · exact h.1.elim
  · exact h.1

section
variable {P : Prop} {ds1 ds2 : List IVal}

theorem check_eq_of_sim (h : All₂ (IVal.simP P) ds1 ds2) : checkNoChange ds1 = checkNoChange ds2 := by
  induction h with
  | nil => rfl
  | cons hab _ ih =>
    simp only [checkNoChange, List.all_cons] at ih ⊢
    rw [ih, IVal.sim_tangent hab.1]

theorem primals_eq_of_sim (h : All₂ (IVal.simP P) ds1 ds2) (hc : checkNoChange ds1 = true) :
    ds1.map IVal.primal = ds2.map IVal.primal := by
  induction h with
  | nil => rfl
  | cons hab _ ih =>
    simp only [checkNoChange, List.all_cons, Bool.and_eq_true, decide_eq_true_eq] at hc
    rw [List.map_cons, List.map_cons, IVal.sim_primal hab.1 hc.1, ih hc.2]

theorem check_of_simP (h : All₂ (IVal.simP P) ds1 ds2) (hP : P) : checkNoChange ds1 = true :=
  List.all_eq_true.mpr fun d hd => decide_eq_true (All₂.forall_left (fun _ _ hab => hab.2 hP) h d hd)

theorem AgreeOn.refl {tags : List Tag} {xs : List Val} (hlen : xs.length = tags.length) : AgreeOn tags xs xs := by
  have hl := All₂.of_length hlen
  clear hlen
  induction hl with
  | nil => trivial
  | cons _ _ ih => exact ⟨fun _ => rfl, ih⟩

theorem step_sim (sem : Sem) {e1 e2 : Env IVal} (he : EnvRel (IVal.simP P) e1 e2) (q : Eqn) :
    OkRel (EnvRel (IVal.simP P)) (stepIncr sem none e1 q) (stepIncr sem none e2 q) := by
  rw [stepIncr_eq, stepIncr_eq]
  refine OkRel.bind (he.readAll (l1 := IVal.raw) (l2 := IVal.raw) (IVal.simP_raw P) q.ins).toOk ?_
  intro ds1 ds2 hds
  have hw : All₂ (IVal.simP P) (ds1.map IVal.wrap) (ds2.map IVal.wrap) := hds.map fun _ _ h => IVal.simP_wrap h
  rw [defaultRule_wrapOuts, defaultRule_wrapOuts, ← check_eq_of_sim hw]
  cases hc : checkNoChange (ds1.map IVal.wrap) with
  | true =>
    -- all operands `NoChange`: equal primals, so the same results, tagged `NoChange`
    rw [← primals_eq_of_sim hw hc]
    refine OkRel.bind (ExRel.toOk ?_) fun _ _ ho => (EnvRel.writeMany ho he q.outs).toOk
    cases sem q.prim q.params ((ds1.map IVal.wrap).map IVal.primal) >>= wrapOuts q.multi with
    | error _ => exact rfl
    | ok l => exact All₂.map_same (IVal.simP_noChange P) l
  | false =>
    -- some operand `UnknownChange` (so not `P`): results tagged `UnknownChange` are related whatever they are
    have hP : ¬ P := fun hP => Bool.false_ne_true (hc.symm.trans (check_of_simP hw hP))
    refine OkRel.bind (OkRel.map (fun l1 l2 hl => ?_) _ _) fun _ _ hl => EnvRel.writeMany_ok hl he q.outs
    rw [List.length_map, List.length_map] at hl
    exact (All₂.of_length hl).map fun _ _ _ => ⟨⟨rfl, nofun⟩, fun h => (hP h).elim⟩

theorem loop_sim (sem : Sem) (qs : List Eqn) :
    ∀ {e1 e2 : Env IVal}, EnvRel (IVal.simP P) e1 e2 →
      OkRel (EnvRel (IVal.simP P)) (loopIncr sem none e1 qs) (loopIncr sem none e2 qs) := by
  induction qs with
  | nil => intro e1 e2 he a b ha hb; cases ha; cases hb; exact he
  | cons q qs ih => intro e1 e2 he; exact OkRel.bind (step_sim sem he q) fun _ _ he' => ih he'

theorem treeDiff_sim (tags : List Tag) (xs ys : List Val) (hP : P → ∀ t ∈ tags, t = .noChange)
    (h : AgreeOn tags xs ys) : ExRel (All₂ (IVal.simP P)) (treeDiff xs tags) (treeDiff ys tags) := by
  fun_induction AgreeOn tags xs ys with
  | case1 => exact All₂.nil
  | case2 t ts x xs y ys ih =>
    exact ExRel.bind (ih (fun p t' ht' => hP p t' (List.mem_cons_of_mem _ ht')) h.2) fun _ _ hds =>
      All₂.cons ⟨⟨rfl, h.1⟩, fun p => hP p t (List.mem_cons_self ..)⟩ hds
  | case3 => exact h.elim

end

def Agree (e : Env Val) (ρ : FEnv) : Prop := ∀ n, e.lookup n = ρ n

theorem Agree.empty : Agree ([] : Env Val) FEnv.empty := fun _ => rfl

theorem Agree.write {e : Env Val} {ρ : FEnv} (h : Agree e ρ) (b : Binder) (v : Val) :
    Agree (e.write b v) (ρ.bind b v) := by
  cases b with
  | drop => exact h
  | var n =>
    intro m
    simp only [Env.write, FEnv.bind, Env.lookup_set, h m]
    by_cases hm : n = m
    · rw [if_pos hm, if_pos hm.symm]
    · rw [if_neg hm, if_neg (Ne.symm hm)]

theorem Agree.writeMany (bs : List Binder) (vs : List Val) {e : Env Val} {ρ : FEnv} (h : Agree e ρ) :
    ExRel Agree (e.writeMany bs vs) (ρ.bindAll bs vs) := by
  induction bs generalizing vs e ρ with
  | nil =>
    cases vs with
    | nil => exact h
    | cons _ _ => exact rfl
  | cons b bs ih =>
    cases vs with
    | nil => exact rfl
    | cons v vs => rw [Env.writeMany_cons]; exact ih vs (h.write b v)

theorem Agree.read {e : Env Val} {ρ : FEnv} (h : Agree e ρ) (a : Atom) : e.read id a = ρ.atom a := by
  cases a with
  | lit v => rfl
  | var n =>
    rw [Env.read_var, h n, FEnv.atom]
    cases ρ n <;> rfl

theorem Agree.readAll {e : Env Val} {ρ : FEnv} (h : Agree e ρ) (as : List Atom) :
    e.readAll id as = ρ.atoms as := by
  induction as with
  | nil => rfl
  | cons a as ih => rw [Env.readAll_cons, h.read a, ih]; rfl

/-- One equation of `eval_jaxpr` (the body of `evalEqns`). -/
def stepPlain (sem : Sem) (ρ : FEnv) (q : Eqn) : Except Err FEnv :=
  ρ.atoms q.ins >>= fun vs => (sem q.prim q.params vs >>= wrapOuts q.multi) >>= ρ.bindAll q.outs

theorem evalEqns_cons (sem : Sem) (ρ : FEnv) (q : Eqn) (qs : List Eqn) :
    evalEqns sem ρ (q :: qs) = stepPlain sem ρ q >>= fun ρ' => evalEqns sem ρ' qs := by
  simp only [evalEqns, stepPlain, bind_assoc]

theorem step_plain (sem : Sem) (h : Handler Val) {e : Env Val} {ρ : FEnv} (he : Agree e ρ) (q : Eqn) :
    ExRel Agree (stepStateful sem h e q) (stepPlain (h.override sem) ρ q) := by
  rw [stepStateful_eq, stepPlain, he.readAll]
  exact ExRel.bind_same _ fun vs => ExRel.bind_same _ fun l => Agree.writeMany q.outs l he

theorem loop_plain (sem : Sem) (h : Handler Val) (qs : List Eqn) :
    ∀ {e : Env Val} {ρ : FEnv}, Agree e ρ →
      ExRel Agree (loopStateful sem h e qs) (evalEqns (h.override sem) ρ qs) := by
  induction qs with
  | nil => intro e ρ he; exact he
  | cons q qs ih =>
    intro e ρ he
    rw [evalEqns_cons]
    exact ExRel.bind (step_plain sem h he q) fun _ _ he' => ih he'

theorem evalIncr_sim_stateful (sem : Sem) (h : Handler Val) (hno : ∀ p, h.handles p = false) (j : Jaxpr)
    (consts xs : List Val) (tags : List Tag) (hlen : xs.length = tags.length) :
    ExRel (All₂ PrimalIs) (evalIncr sem none j consts xs tags) (evalStateful sem h j consts xs) := by
  unfold evalIncr evalStateful
  have hcs : All₂ PrimalIs (consts.map fun c => IVal.diff c .noChange) consts := All₂.map_left (fun _ => by rfl) consts
  refine ExRel.bind (EnvRel.writeMany hcs (EnvRel.nil _) _) fun e1 e2 he => ?_
  refine ExRel.bind_left (treeDiff_primal hlen) fun ds hds => ?_
  refine ExRel.bind (EnvRel.writeMany hds he _) fun e1' e2' he' => ?_
  refine ExRel.bind (loop_primal sem h hno j.eqns he') fun e1'' e2'' he'' => ?_
  exact he''.readAll (l1 := IVal.raw) (l2 := id) (fun _ => rfl) j.outvars

theorem evalStateful_eq_plain_override (sem : Sem) (h : Handler Val) (j : Jaxpr) (consts args : List Val) :
    evalStateful sem h j consts args = evalPlain (h.override sem) j consts args := by
  apply ExRel.eq
  unfold evalStateful evalPlain
  refine ExRel.bind (Agree.writeMany _ consts Agree.empty) fun e ρ he => ?_
  refine ExRel.bind (Agree.writeMany _ args he) fun e' ρ' he' => ?_
  refine ExRel.bind (loop_plain sem h j.eqns he') fun e'' ρ'' he'' => ?_
  rw [he''.readAll]
  exact ExRel.refl (fun _ => rfl) _

theorem evalStateful_eq_plain (sem : Sem) (h : Handler Val) (hno : ∀ p, h.handles p = false) (j : Jaxpr)
    (consts args : List Val) : evalStateful sem h j consts args = evalPlain sem j consts args := by
  rw [evalStateful_eq_plain_override, Handler.override_of_noHandle sem h hno]

theorem evalIncr_sim (sem : Sem) (j : Jaxpr) (consts xs ys : List Val) (tags : List Tag)
    (hag : AgreeOn tags xs ys) :
    OkRel (All₂ (IVal.simP (∀ t ∈ tags, t = .noChange)))
      (evalIncr sem none j consts xs tags) (evalIncr sem none j consts ys tags) := by
  unfold evalIncr
  have hcs : All₂ (IVal.simP (∀ t ∈ tags, t = .noChange)) (consts.map fun c => IVal.diff c .noChange)
      (consts.map fun c => IVal.diff c .noChange) :=
    All₂.map_same (IVal.simP_noChange _) consts
  refine OkRel.bind (EnvRel.writeMany hcs (EnvRel.nil _) _).toOk fun e1 e2 he => ?_
  refine OkRel.bind (treeDiff_sim tags xs ys id hag).toOk fun ds1 ds2 hds => ?_
  refine OkRel.bind (EnvRel.writeMany hds he _).toOk fun e1' e2' he' => ?_
  refine OkRel.bind (loop_sim sem j.eqns he') fun e1'' e2'' he'' => ?_
  exact (he''.readAll (l1 := IVal.raw) (l2 := IVal.raw) (IVal.simP_raw _) j.outvars).toOk

theorem FEnv.bindAll_arity {ρ : FEnv} {bs : List Binder} {vs : List Val} (h : bs.length ≠ vs.length) :
    ρ.bindAll bs vs = .error .arity := by
  fun_induction FEnv.bindAll ρ bs vs with
  | case1 => exact absurd rfl h
  | case2 ρ b bs v vs ih => exact ih fun hl => h (congrArg Nat.succ hl)
  | case3 => rfl

theorem FEnv.bindAll_append {bs1 : List Binder} {vs1 : List Val} (h : bs1.length = vs1.length) (bs2 : List Binder)
    (vs2 : List Val) (ρ : FEnv) :
    ρ.bindAll (bs1 ++ bs2) (vs1 ++ vs2) = ρ.bindAll bs1 vs1 >>= fun ρ1 => ρ1.bindAll bs2 vs2 := by
  have hl := All₂.of_length h
  clear h
  induction hl generalizing ρ with
  | nil => rfl
  | cons _ _ ih => exact ih _

theorem FEnv.bindAll_vars {ns : List Nat} {vs : List Val} (h : ns.length = vs.length) (hnd : ns.Nodup) (ρ : FEnv) :
    ∃ ρ', ρ.bindAll (ns.map .var) vs = .ok ρ' ∧ ρ'.atoms (ns.map .var) = .ok vs ∧ ∀ m, m ∉ ns → ρ' m = ρ m := by
  have hl := All₂.of_length h
  clear h
  induction hl generalizing ρ with
  | nil => exact ⟨ρ, rfl, rfl, fun _ _ => rfl⟩
  | @cons n v ns vs _ _ ih =>
    obtain ⟨hn, hnd'⟩ := List.nodup_cons.mp hnd
    obtain ⟨ρ', hb, hat, hfr⟩ := ih hnd' (ρ.bind (.var n) v)
    have hρn : ρ' n = some v := by rw [hfr n hn]; exact if_pos rfl
    refine ⟨ρ', hb, ?_, fun m hm => ?_⟩
    · simp only [List.map_cons, FEnv.atoms, FEnv.atom, hρn, hat]; rfl
    · rw [hfr m fun h' => hm (List.mem_cons_of_mem _ h')]
      exact if_neg fun (h' : m = n) => hm (h' ▸ List.mem_cons_self ..)

theorem evalPlain_single (sem : Sem) (p : String) (multi : Bool) (ps : Params) (cv iv ov : List Nat)
    (consts args : List Val) (hnd : (cv ++ iv).Nodup) (hov : ov.Nodup) (hc : cv.length = consts.length)
    (hi : iv.length = args.length) :
    evalPlain sem (.mk cv iv [.mk p multi ps ((cv ++ iv).map .var) (ov.map .var)] (ov.map .var)) consts args =
      (sem p ps (consts ++ args) >>= wrapOuts multi) >>= fun r =>
        if ov.length = r.length then .ok r else .error .arity := by
  -- binding `cv ++ iv` to `consts ++ args` succeeds, and reading them back returns the values
  obtain ⟨ρ, hρ, hat, _⟩ := FEnv.bindAll_vars (vs := consts ++ args)
    (by rw [List.length_append, List.length_append, hc, hi]) hnd FEnv.empty
  rw [List.map_append, FEnv.bindAll_append (by rw [List.length_map, hc])] at hρ
  simp only [evalPlain, Jaxpr.constvars, Jaxpr.invars, Jaxpr.eqns, Jaxpr.outvars, evalEqns_cons, stepPlain, Eqn.ins,
    Eqn.prim, Eqn.params, Eqn.multi, Eqn.outs]
  rw [← bind_assoc, hρ, ok_bind, hat, ok_bind]
  cases sem p ps (consts ++ args) >>= wrapOuts multi with
  | error x => rfl
  | ok r =>
    rw [ok_bind, ok_bind]
    by_cases hl : ov.length = r.length
    · obtain ⟨ρ', hρ', hat', _⟩ := FEnv.bindAll_vars hl hov ρ
      rw [hρ', if_pos hl]
      exact hat'
    · rw [FEnv.bindAll_arity (by rw [List.length_map]; exact hl), if_neg hl]; rfl

theorem Params.find_cons_self (k : String) (p : Param) (rest : Params) : Params.find ((k, p) :: rest) k = some p :=
  if_pos rfl

theorem Params.find_cons_ne {k k' : String} (h : k' ≠ k) (p : Param) (rest : Params) :
    Params.find ((k', p) :: rest) k = Params.find rest k :=
  if_neg h

/-- The jaxpr obtained by staging `lambda *args: initial_style_bind(p)(g)(*args)`: one
    equation `outs = p[impl=J, num_consts=|consts|] consts args`, where `J` is `g` staged. -/
def isCall (p : String) (J : Jaxpr) (cv iv ov : List Nat) : Jaxpr :=
  .mk cv iv
    [.mk p true [("impl", .closed J []), ("num_consts", .int cv.length)] ((cv ++ iv).map .var) (ov.map .var)]
    (ov.map .var)

theorem initialStyleImpl_closed (sem' : Sem) (J : Jaxpr) (cs : List Val) (k : Nat) (rest : Params) (vs : List Val) :
    initialStyleImpl sem' (("impl", .closed J cs) :: ("num_consts", .int k) :: rest) vs =
      (evalPlain sem' J (vs.take k) (vs.drop k)).map PrimOut.many := by
  rw [initialStyleImpl, Params.find_cons_self,
    Params.find_cons_ne (by simp only [ne_eq, String.reduceEq, not_false_eq_true]), Params.find_cons_self]
  simp only [Int.toNat_natCast]
  cases evalPlain sem' J (vs.take k) (vs.drop k) <;> rfl

end GenjaxVerif.IR
