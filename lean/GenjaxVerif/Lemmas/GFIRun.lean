import GenjaxVerif.Lemmas.GFIBasic
/-! How a successful `run` decomposes.  Induction over programs without mutual blocks (`Prog.ind`: callees of a
    static body and branches of a switch as list membership, vmap and scan as one case), one inversion lemma per
    combinator, and for the combinators that make many calls what a pass keeps invariant (`runBody_inv`), what all
    elements have in common (`run_vec`) and how a second run follows a first (`runBody_rerun`, `run_vec_rerun`). -/
namespace GenjaxVerif.GFI
open GenjaxVerif

def Body.progs : Body → List Prog
  | .ret _ => []
  | .bind _ p _ rest => p :: rest.progs

/-- The two vector combinators over an inner program `p`.  Their traces, scores, choices and edits have
    the same shape; they differ in arguments, keys and the change flag handed to the elements. -/
inductive IsVec (p : Prog) : Prog → Prop
  | vmap (axes : List Ax) : IsVec p (.vmap p axes)
  | scan (len : Option Nat) : IsVec p (.scan p len)

theorem Prog.ind {P : Prog → Prop} (dist : ∀ d, P (.dist d))
    (static : ∀ b, (∀ p ∈ Body.progs b, P p) → P (.static b))
    (vec : ∀ p q, IsVec p q → P p → P q)
    (switch : ∀ ps, (∀ p ∈ ps, P p) → P (.switch ps)) (mask : ∀ p, P p → P (.mask p))
    (dimap : ∀ pre p post, P p → P (.dimap pre p post)) (p : Prog) : P p :=
  -- `Prog.rec` takes its cases in the order of the constructors of `Prog` (dist, static, vmap, scan, switch, mask,
  -- dimap), then of `Body` (ret, bind), then of `List Prog` (nil, cons)
  Prog.rec (motive_1 := P) (motive_2 := fun b => ∀ p ∈ Body.progs b, P p) (motive_3 := fun ps => ∀ p ∈ ps, P p)
    dist static (fun p axes => vec p _ (.vmap axes)) (fun p len => vec p _ (.scan len)) switch mask dimap
    (fun _ _ h => nomatch h) (fun _ _ _ _ hq hrest _ h => (List.mem_cons.1 h).elim (· ▸ hq) (hrest _))
    (fun _ h => nomatch h) (fun _ _ hq hrest _ h => (List.mem_cons.1 h).elim (· ▸ hq) (hrest _)) p

theorem Body.ind {P : Body → Prop} (ret : ∀ e, P (.ret e))
    (bind : ∀ addr p aes rest, P rest → P (.bind addr p aes rest)) : ∀ b, P b
  | .ret e => ret e
  | .bind addr p aes rest => bind addr p aes rest (Body.ind ret bind rest)

theorem runNth_eq {ds m} (ps : List Prog) (k : Nat) (i : In) :
    runNth ds m ps k i = match ps[k]? with | some p => run ds m p i | none => .error .shape := by
  induction ps generalizing k with
  | nil => rfl
  | cons p ps ih =>
    cases k with
    | zero => rfl
    | succ k => exact ih k

theorem runNth_ok {ds m ps k i r} : runNth ds m ps k i = .ok r ↔ ∃ p, ps[k]? = some p ∧ run ds m p i = .ok r := by
  rw [runNth_eq]; cases ps[k]? <;> simp

theorem runNth_congr {ds m ps k i j} (h : ∀ p ∈ ps, run ds m p i = run ds m p j) :
    runNth ds m ps k i = runNth ds m ps k j := by
  rw [runNth_eq, runNth_eq]
  cases hp : ps[k]? with
  | none => rfl
  | some p => exact h p (List.mem_of_getElem? hp)

/-- The value a constraint validly prescribes at the current address, if any. -/
def validValue (c : CMap) : Option Int :=
  match c.leaf with
  | some (.plain v) => some v
  | some (.masked true v) => some v
  | _ => none

section
variable {ds : DistSem} {d : Nat} {i : In}

theorem leaf_sim : leaf ds .sim d i =
    .ok ⟨.dist d i.args (ds.sample d i.key i.args) (ds.lp d (ds.sample d i.key i.args) i.args), 0, [], true⟩ := rfl

/-- `assess` reads the value at the address whatever its flag (checkify off). -/
theorem leaf_assess {r} : leaf ds .assess d i = .ok r ↔
    ∃ v, (i.c.leaf = some (.plain v) ∨ ∃ f, i.c.leaf = some (.masked f v)) ∧
      ⟨.dist d i.args v (ds.lp d v i.args), ds.lp d v i.args, [], true⟩ = r := by
  unfold leaf
  cases i.c.leaf with
  | none => simp
  | some cv => cases cv <;> simp

theorem leaf_gen : leaf ds .gen d i = .ok (match validValue i.c with
    | some v => ⟨.dist d i.args v (ds.lp d v i.args), ds.lp d v i.args, [], true⟩
    | none => ⟨.dist d i.args (ds.sample d i.key i.args) (ds.lp d (ds.sample d i.key i.args) i.args), 0, [], true⟩) := by
  unfold leaf validValue
  cases i.c.leaf with
  | none => rfl
  | some cv => cases cv with
    | plain v => rfl
    | masked f v => cases f <;> rfl

theorem oldOf_ok {t} : oldOf i = .ok t ↔ i.old = some t := by
  unfold oldOf; cases i.old <;> simp

theorem leaf_edit_old {m r} (hm : m = .upd ∨ m = .regen) (h : leaf ds m d i = .ok r) :
    ∃ d' a ov olp, i.old = some (.dist d' a ov olp) := by
  unfold leaf at h
  -- both edits begin `match ← oldOf i with | .dist .. => … | _ => .error .shape`
  rcases hm with rfl | rfl
  all_goals
    obtain ⟨t, ht, h⟩ := bind_eq_ok.1 h
    split at h
    · exact ⟨_, _, _, _, oldOf_ok.1 ht⟩
    · cases h

theorem leaf_upd {d' a ov olp} (ho : i.old = some (.dist d' a ov olp)) : leaf ds .upd d i =
    .ok ⟨.dist d i.args ((validValue i.c).getD ov) (ds.lp d ((validValue i.c).getD ov) i.args),
         ds.lp d ((validValue i.c).getD ov) i.args - olp,
         match i.c.leaf with
         | none => []
         | some (.masked f _) => [([], .masked f ov)]
         | some (.plain _) => [([], .plain ov)], true⟩ := by
  unfold leaf validValue oldOf
  rw [ho]
  cases i.c.leaf with
  | none => rfl
  | some cv => cases cv with
    | plain v => rfl
    | masked f v => cases f <;> rfl

theorem leaf_regen {d' a ov olp} (ho : i.old = some (.dist d' a ov olp)) : leaf ds .regen d i =
    .ok (if i.sel.check then
          ⟨.dist d i.args (ds.sample d i.key i.args) (ds.lp d (ds.sample d i.key i.args) i.args),
           ds.lp d (ds.sample d i.key i.args) i.args - olp, [([], .plain ov)], true⟩
         else ⟨.dist d i.args ov (ds.lp d ov i.args), ds.lp d ov i.args - olp, [], true⟩) := by
  unfold leaf oldOf
  rw [ho]
  cases i.sel.check <;> rfl
end

theorem staticOlds_edit {m t olds} (hm : m = .upd ∨ m = .regen) (h : staticOlds m (some t) = .ok olds) :
    ∃ a r, t = .static a r olds := by
  cases t with
  | static a r subs => rcases hm with rfl | rfl <;> cases h <;> exact ⟨a, r, rfl⟩
  | _ => rcases hm with rfl | rfl <;> cases h

theorem bindOld_upd {olds addr o} :
    bindOld .upd olds addr = .ok o ↔ ∃ t, lookupSub olds addr = some t ∧ some t = o := by
  unfold bindOld
  cases lookupSub olds addr <;> simp

theorem bindIn_ok {m i olds st addr a i'} : bindIn m i olds st addr a = .ok i' ↔
    lookupSub st.subs addr = none ∧ (m = .assess → (i.c.subStatic addr).isEmpty = false) ∧
    ∃ o, bindOld m olds addr = .ok o ∧
      { i with c := i.c.subStatic addr, sel := i.sel.subs addr, old := o,
               key := i.key.child st.counter, args := .tup a } = i' := by
  unfold bindIn
  rw [ite_error_eq_ok, ite_error_eq_ok, Option.not_isSome_iff_eq_none, Bool.and_eq_true, beq_iff_eq, not_and,
    Bool.not_eq_true]
  refine and_congr_right fun _ => and_congr_right fun _ => ?_
  cases bindOld m olds addr with
  | error e => exact ⟨nofun, by rintro ⟨_, h, _⟩; cases h⟩
  | ok o => exact ⟨fun h => ⟨o, rfl, Except.ok.inj h⟩, by rintro ⟨_, h, rfl⟩; cases h; rfl⟩

theorem run_static {ds m b i r} : run ds m (.static b) i = .ok r ↔
    ∃ env, argList i.args = .ok env ∧ ∃ olds, staticOlds m i.old = .ok olds ∧
      ∃ st v, runBody ds m b i olds env {} = .ok (st, v) ∧ ⟨.static i.args v st.subs, st.w, st.bwd, st.bwdOk⟩ = r := by
  simp only [run, staticRun, bind_eq_ok, pure_eq_ok, Prod.exists]

theorem runBody_ret {ds m e i olds env st st' v} :
    runBody ds m (.ret e) i olds env st = .ok (st', v) ↔ Expr.eval env e = .ok v ∧ st = st' := by
  simp only [runBody, bind_eq_ok, pure_eq_ok, Prod.mk.injEq]
  constructor
  · rintro ⟨_, he, hs, rfl⟩; exact ⟨he, hs⟩
  · rintro ⟨he, hs⟩; exact ⟨v, he, hs, rfl⟩

theorem runBody_bind {ds m addr p aes rest i olds env st x} :
    runBody ds m (.bind addr p aes rest) i olds env st = .ok x ↔
      ∃ a, Expr.evalL env aes = .ok a ∧ ∃ i', bindIn m i olds st addr a = .ok i' ∧ ∃ r, run ds m p i' = .ok r ∧
        runBody ds m rest i olds (env ++ [r.tr.ret]) (bindOut st addr r) = .ok x := by
  simp only [runBody, bind_eq_ok]

theorem runBody_inv {ds m i olds} {I : SState → Prop} (b : Body) {env st st' v}
    (h : runBody ds m b i olds env st = .ok (st', v)) (hI : I st)
    (step : ∀ p ∈ Body.progs b, ∀ st addr a i' r, I st → bindIn m i olds st addr a = .ok i' → run ds m p i' = .ok r →
      I (bindOut st addr r)) : I st' := by
  induction b using Body.ind generalizing env st with
  | ret e => exact (runBody_ret.1 h).2 ▸ hI
  | bind addr p aes rest ih =>
    obtain ⟨a, _, i', hi', r, hr, h'⟩ := runBody_bind.1 h
    exact ih h' (step p (List.mem_cons_self ..) _ _ _ _ _ hI hi' hr) fun q hq => step q (List.mem_cons_of_mem _ hq)

theorem runBody_subs {ds m i olds b env st st' v} (h : runBody ds m b i olds env st = .ok (st', v)) :
    ∃ suf, st'.subs = st.subs ++ suf :=
  runBody_inv (I := fun s => ∃ suf, s.subs = st.subs ++ suf) b h ⟨[], by simp⟩
    fun _ _ _ addr _ _ r hI _ _ => hI.elim fun suf hs => ⟨suf ++ [(addr, r.tr)], by simp [bindOut, hs]⟩

/-- A second pass over the same body that follows a first one: `R` relates the two handlers' states, and the step
    may use where the first pass recorded the call's trace. -/
theorem runBody_rerun {ds m m' i j olds olds'} {R : SState → SState → Prop} (b : Body) {env st st' v sta}
    (h : runBody ds m b i olds env st = .ok (st', v)) (hR : R st sta)
    (step : ∀ p ∈ Body.progs b, ∀ st sta addr a i' r suf, R st sta → bindIn m i olds st addr a = .ok i' →
      run ds m p i' = .ok r → st'.subs = st.subs ++ (addr, r.tr) :: suf →
      ∃ j' r', bindIn m' j olds' sta addr a = .ok j' ∧ run ds m' p j' = .ok r' ∧ r'.tr.ret = r.tr.ret ∧
        R (bindOut st addr r) (bindOut sta addr r')) :
    ∃ sta', runBody ds m' b j olds' env sta = .ok (sta', v) ∧ R st' sta' := by
  induction b using Body.ind generalizing env st sta with
  | ret e =>
    obtain ⟨hv, rfl⟩ := runBody_ret.1 h
    exact ⟨sta, runBody_ret.2 ⟨hv, rfl⟩, hR⟩
  | bind addr p aes rest ih =>
    obtain ⟨a, ha, i', hi', r, hr, h'⟩ := runBody_bind.1 h
    obtain ⟨suf, hsuf⟩ := runBody_subs h'
    obtain ⟨j', r', hj', hr', hret, hR'⟩ := step p (List.mem_cons_self ..) st sta addr a i' r suf hR hi' hr
      (by rw [hsuf]; simp [bindOut])
    obtain ⟨sta', h1, h2⟩ := ih h' hR' fun q hq => step q (List.mem_cons_of_mem _ hq)
    exact ⟨sta', runBody_bind.2 ⟨a, ha, j', hj', r', hr', hret ▸ h1⟩, h2⟩

theorem vmapElem_ok {axes as i k ik} : vmapElem axes as i k = .ok ik ↔
    ∃ ea o, sliceArgs axes as k = .ok ea ∧ nthOld i.old k = .ok o ∧
      { i with c := i.c.sub (.i k), old := o, key := i.key.child k, args := .tup ea } = ik := by
  simp only [vmapElem, bind_eq_ok, pure_eq_ok, exists_and_left]

theorem scanElem_ok {m i k key carry x ik} : scanElem m i k key carry x = .ok ik ↔
    ∃ o, nthOld i.old k = .ok o ∧
      { i with c := i.c.sub (.i k), old := o, key := key, args := .tup [carry, x],
               changed := i.changed || m == .upd } = ik := by
  simp only [scanElem, bind_eq_ok, pure_eq_ok]

theorem vmapRun_ok {m axes i f r} : vmapRun m axes i f = .ok r ↔
    ∃ as rs, vmapArgs m i.args = .ok as ∧ dimLength axes as = .ok rs.length ∧ checkOldLen i.old rs.length = .ok () ∧
      (∀ k (hk : k < rs.length), ∃ ik, vmapElem axes as i k = .ok ik ∧ f ik = .ok rs[k]) ∧
      vecRes i.args (.arr (rs.map (·.tr.ret))) rs = r := by
  simp only [vmapRun, bind_eq_ok, pure_eq_ok, vmapLoop_ok, Nat.zero_add]
  constructor
  · rintro ⟨as, has, n, hn, _, hlen, rs, ⟨rfl, hel⟩, rfl⟩; exact ⟨as, rs, has, hn, hlen, hel, rfl⟩
  · rintro ⟨as, rs, has, hn, hlen, hel, rfl⟩; exact ⟨as, has, _, hn, _, hlen, rs, ⟨rfl, hel⟩, rfl⟩

theorem scanRun_ok {m len i f r} : scanRun m len i f = .ok r ↔
    ∃ carry xs, scanArgs len i.args = .ok (carry, xs) ∧ checkOldLen i.old xs.length = .ok () ∧
      ∃ rs fin, scanLoop (fun k key carry x => do f (← scanElem m i k key carry x)) 0 i.key carry xs = .ok (rs, fin) ∧
      ∃ ys, rs.mapM secondOfRet = .ok ys ∧ vecRes i.args (.tup [fin, .arr ys]) rs = r := by
  simp only [scanRun, bind_eq_ok, pure_eq_ok, Prod.exists]
  constructor
  · rintro ⟨c, xs, h1, _, h2, h3⟩; exact ⟨c, xs, h1, h2, h3⟩
  · rintro ⟨c, xs, h1, h2, h3⟩; exact ⟨c, xs, h1, _, h2, h3⟩

/-- The change flag the elements of a vector combinator see: a scan forces it for updates (inside
    `Scan.edit_update` every argument diff is `unknown_change`). -/
def elemChanged (m : Mode) : Prog → Bool → Bool
  | .scan _ _, ch => ch || m == .upd
  | _, ch => ch

/-- What element `k` of a vmapped or scanned call is given, apart from its arguments and key. -/
structure ElemIn (m : Mode) (q : Prog) (i : In) (k : Nat) (ik : In) : Prop where
  c : ik.c = i.c.sub (.i k)
  sel : ik.sel = i.sel
  old : nthOld i.old k = .ok ik.old
  changed : ik.changed = elemChanged m q i.changed

theorem run_vec {ds m p q i r} (hq : IsVec p q) (h : run ds m q i = .ok r) :
    ∃ ret rs, vecRes i.args ret rs = r ∧ checkOldLen i.old rs.length = .ok () ∧
      ∀ k (hk : k < rs.length), ∃ ik, ElemIn m q i k ik ∧ run ds m p ik = .ok rs[k] := by
  cases hq
  · obtain ⟨as, rs, _, _, hlen, hel, rfl⟩ := vmapRun_ok.1 h
    refine ⟨_, rs, rfl, hlen, fun k hk => ?_⟩
    obtain ⟨ik, hik, hr⟩ := hel k hk
    obtain ⟨ea, o, _, ho, rfl⟩ := vmapElem_ok.1 hik
    -- `by exact`: the element input is read off `hr` first, the fields are then compared with it
    exact ⟨_, by exact ⟨rfl, rfl, ho, rfl⟩, hr⟩
  · obtain ⟨carry, xs, _, hlen, rs, fin, hloop, ys, _, rfl⟩ := scanRun_ok.1 h
    obtain ⟨hl, hg⟩ := scanLoop_get hloop
    refine ⟨_, rs, rfl, hl ▸ hlen, fun k hk => ?_⟩
    obtain ⟨key, c, hk'⟩ := hg k hk (hl ▸ hk)
    simp only [bind_eq_ok, Nat.zero_add] at hk'
    obtain ⟨ik, hik, hr⟩ := hk'
    obtain ⟨o, ho, rfl⟩ := scanElem_ok.1 hik
    exact ⟨_, by exact ⟨rfl, rfl, ho, rfl⟩, hr⟩

theorem checkOldLen_vec {i : In} {a rt es n} (ho : i.old = some (.vec a rt es)) (hlen : checkOldLen i.old n = .ok ()) :
    es.length = n := by
  simpa [checkOldLen, ho] using hlen

theorem ElemIn.old_get {m q i k ik a rt es} (h : ElemIn m q i k ik) (ho : i.old = some (.vec a rt es))
    (hk : k < es.length) : ik.old = some es[k] := by
  simpa [nthOld, ho, hk, eq_comm] using h.old

theorem checkOldLen_ok {old : Option Trace} {n : Nat}
    (h : old = none ∨ ∃ a rt es, old = some (.vec a rt es) ∧ es.length = n) :
    checkOldLen old n = .ok () ∧ ∀ k, k < n → ∃ o, nthOld old k = .ok o := by
  rcases h with rfl | ⟨a, rt, es, rfl, rfl⟩
  · exact ⟨rfl, fun _ _ => ⟨none, rfl⟩⟩
  · exact ⟨by simp [checkOldLen], fun k hk => ⟨some es[k], by simp [nthOld, hk]⟩⟩

/-- `T` maps what an element returned the first time to what it returns the second time (the same trace, no
    backward constraint). -/
theorem run_vec_rerun {ds m p q i j r} (m' : Mode) (T : Res → Res) (hq : IsVec p q)
    (hT : ∀ r, (T r).tr = r.tr ∧ (T r).bwd = [] ∧ (T r).bwdOk = true)
    (hm' : m' ≠ .regen) (h : run ds m q i = .ok r) (ha : j.args = i.args) :
    ∃ ret rs, vecRes i.args ret rs = r ∧
      ((j.old = none ∨ ∃ a rt es, j.old = some (.vec a rt es) ∧ es.length = rs.length) →
       (∀ k (hk : k < rs.length) ik jk, run ds m p ik = .ok rs[k] → ElemIn m' q j k jk → jk.args = ik.args →
          run ds m' p jk = .ok (T rs[k])) →
       run ds m' q j = .ok ⟨.vec j.args ret (rs.map (·.tr)), sumW (rs.map T), [], true⟩) := by
  have hret : ∀ rs : List Res, (rs.map T).map (·.tr.ret) = rs.map (·.tr.ret) := fun rs => by
    simp only [List.map_map, Function.comp_def, hT]
  cases hq with
  | vmap axes =>
    obtain ⟨as, rs, has, hn, _, hel, rfl⟩ := vmapRun_ok.1 h
    refine ⟨_, rs, rfl, fun hold helem => ?_⟩
    obtain ⟨hlen, hnth⟩ := checkOldLen_ok hold
    refine vmapRun_ok.2 ⟨as, rs.map T, vmapArgs_ok.2 ⟨hm', ha ▸ (vmapArgs_ok.1 has).2⟩, ?_, ?_, fun k hk => ?_, ?_⟩
    · rw [List.length_map]; exact hn
    · rw [List.length_map]; exact hlen
    · rw [List.length_map] at hk
      obtain ⟨ik, hik, hr⟩ := hel k hk
      obtain ⟨ea, _, hea, _, rfl⟩ := vmapElem_ok.1 hik
      obtain ⟨o, ho⟩ := hnth k hk
      refine ⟨_, vmapElem_ok.2 ⟨ea, o, hea, ho, rfl⟩, ?_⟩
      rw [List.getElem_map]
      exact helem k hk _ _ hr ⟨rfl, rfl, ho, rfl⟩ rfl
    · rw [hret, vecRes_map hT]
  | scan len =>
    obtain ⟨carry, xs, hsa, _, rs, fin, hloop, ys, hys, rfl⟩ := scanRun_ok.1 h
    refine ⟨_, rs, rfl, fun hold helem => ?_⟩
    obtain ⟨hlen, hnth⟩ := checkOldLen_ok hold
    refine scanRun_ok.2 ⟨carry, xs, ha ▸ hsa, (scanLoop_get hloop).1 ▸ hlen, rs.map T, fin,
      scanLoop_rerun (fun r => (hT r).1) hloop fun k hk key1 c x hf key2 => ?_, ys, ?_, vecRes_map hT ..⟩
    · simp only [bind_eq_ok, Nat.zero_add] at hf ⊢
      obtain ⟨ik, hik, hr⟩ := hf
      obtain ⟨_, _, rfl⟩ := scanElem_ok.1 hik
      obtain ⟨o, ho⟩ := hnth k hk
      exact ⟨_, scanElem_ok.2 ⟨o, ho, rfl⟩, helem k hk _ _ hr ⟨rfl, rfl, ho, rfl⟩ rfl⟩
    · rw [mapM_secondOfRet_map fun r => (hT r).1]; exact hys

theorem switchRun_plain {m n i f} (hm : m = .sim ∨ m = .assess ∨ m = .gen) : switchRun m n i f = (do
    let (idx, ba) ← switchArgs n i.args
    let r ← f m idx { i with args := ba }
    pure ⟨.switch i.args idx r.tr, r.w, r.bwd, r.bwdOk⟩) := by
  rcases hm with rfl | rfl | rfl <;> rfl

theorem run_switch_plain {ds m ps i r} (hm : m = .sim ∨ m = .assess ∨ m = .gen) :
    run ds m (.switch ps) i = .ok r ↔ ∃ idx ba, switchArgs ps.length i.args = .ok (idx, ba) ∧
      ∃ r', runNth ds m ps idx { i with args := ba } = .ok r' ∧
        ⟨.switch i.args idx r'.tr, r'.w, r'.bwd, r'.bwdOk⟩ = r := by
  simp only [run, switchRun_plain hm, bind_eq_ok, pure_eq_ok, Prod.exists]

/-- A different index under an unchanged tag is outside the model. -/
theorem run_switch_upd_same {ds ps i r a oidx osub} (ho : i.old = some (.switch a oidx osub))
    (hch : i.changed = false) :
    run ds .upd (.switch ps) i = .ok r ↔ ∃ ba, switchArgs ps.length i.args = .ok (oidx, ba) ∧
      ∃ r', runNth ds .upd ps oidx { i with old := some osub, args := ba } = .ok r' ∧
        ⟨.switch i.args oidx r'.tr, r'.w, r'.bwd, r'.bwdOk⟩ = r := by
  simp only [run, switchRun, bind_eq_ok, pure_eq_ok, Prod.exists, ho, hch, Bool.false_eq_true, if_false,
    ite_error_eq_ok, ne_eq, Decidable.not_not]
  constructor
  · rintro ⟨_, ba, hsa, rfl, h⟩; exact ⟨ba, hsa, h⟩
  · rintro ⟨ba, hsa, h⟩; exact ⟨_, ba, hsa, rfl, h⟩

theorem run_switch_upd_fresh {ds ps i r a oidx osub} (ho : i.old = some (.switch a oidx osub))
    (hch : i.changed = true) :
    run ds .upd (.switch ps) i = .ok r ↔ ∃ idx ba, switchArgs ps.length i.args = .ok (idx, ba) ∧
      ∃ fresh, runNth ds .sim ps idx { i with old := none, args := ba } = .ok fresh ∧
      ∃ r', runNth ds .upd ps idx { i with old := some fresh.tr, args := ba, changed := false } = .ok r' ∧
        ⟨.switch i.args idx r'.tr, r'.w + (r'.tr.score - osub.score), r'.bwd, r'.bwdOk⟩ = r := by
  simp only [run, switchRun, bind_eq_ok, pure_eq_ok, Prod.exists, ho, hch, if_true]

theorem run_switch_regen {ds ps i r} : run ds .regen (.switch ps) i ≠ .ok r := by
  simp [run, switchRun, bind_eq_ok]

theorem asFlag_ok {v : Val} {b : Bool} : v.asFlag = .ok b ↔ v = Val.ofBool b := by
  unfold Val.asFlag
  split
  · cases b <;> simp [Val.ofBool]
  · cases b <;> simp [Val.ofBool]
  · next h0 h1 =>
    refine ⟨nofun, fun h => ?_⟩
    cases b
    · exact absurd h (h0 ·)
    · exact absurd h (h1 ·)

theorem maskArgs_ok {args : Val} {check : Bool} {iargs : List Val} :
    maskArgs args = .ok (check, iargs) ↔ args = .tup (Val.ofBool check :: iargs) := by
  unfold maskArgs
  split
  · simp only [bind_eq_ok, pure_eq_ok, Prod.mk.injEq, asFlag_ok, Val.tup.injEq, List.cons.injEq]
    constructor
    · rintro ⟨_, hf, rfl, hr⟩; exact ⟨hf, hr⟩
    · rintro ⟨hf, hr⟩; exact ⟨_, hf, rfl, hr⟩
  · next hne => exact ⟨nofun, fun h => absurd h (hne _ _)⟩

theorem maskRun_plain {m i f} (hm : m = .sim ∨ m = .assess ∨ m = .gen) : maskRun m i f = (do
    let (check, iargs) ← maskArgs i.args
    let r ← f m { i with args := .tup iargs }
    pure ⟨.mask check r.tr, if check then r.w else 0, r.bwd, r.bwdOk⟩) := by
  rcases hm with rfl | rfl | rfl <;> rfl

theorem run_mask_plain {ds m p i r} (hm : m = .sim ∨ m = .assess ∨ m = .gen) :
    run ds m (.mask p) i = .ok r ↔ ∃ check iargs, maskArgs i.args = .ok (check, iargs) ∧
      ∃ r', run ds m p { i with args := .tup iargs } = .ok r' ∧
        ⟨.mask check r'.tr, if check then r'.w else 0, r'.bwd, r'.bwdOk⟩ = r := by
  simp only [run, maskRun_plain hm, bind_eq_ok, pure_eq_ok, Prod.exists]

theorem run_mask_upd {ds p i r pre inner} (ho : i.old = some (.mask pre inner)) :
    run ds .upd (.mask p) i = .ok r ↔ ∃ check iargs, maskArgs i.args = .ok (check, iargs) ∧
      ∃ r', run ds .upd p { i with old := some inner, args := .tup iargs } = .ok r' ∧
        ⟨.mask check r'.tr,
          if !pre && check then r'.tr.score else if pre && !check then - inner.score
            else if pre && check then r'.w else 0,
          CMap.maskAll check r'.bwd, r'.bwdOk⟩ = r := by
  rw [run, maskRun, bind_eq_ok, Prod.exists]
  simp only [ho, bind_eq_ok, pure_eq_ok]

theorem run_mask_regen {ds p i r} : run ds .regen (.mask p) i ≠ .ok r := by
  simp [run, maskRun, bind_eq_ok]

theorem run_switch_upd_old {ds ps i r} (h : run ds .upd (.switch ps) i = .ok r) :
    ∃ a oidx osub, i.old = some (.switch a oidx osub) := by
  rw [run] at h
  obtain ⟨_, _, h⟩ := bind_eq_ok.1 h
  dsimp only at h
  split at h
  · exact ⟨_, _, _, ‹_›⟩
  · cases h

theorem run_mask_upd_old {ds p i r} (h : run ds .upd (.mask p) i = .ok r) :
    ∃ pre inner, i.old = some (.mask pre inner) := by
  rw [run] at h
  obtain ⟨_, _, h⟩ := bind_eq_ok.1 h
  dsimp only at h
  split at h
  · exact ⟨_, _, ‹_›⟩
  · cases h

/-- In whatever mode (`run_mask_form` likewise): some run of the selected branch, on the branch arguments and the
    same choices, whose trace is the one recorded.  Deliberately silent about key, selection and old trace, which depend on the mode. -/
theorem run_switch_form {ds m ps i r} (h : run ds m (.switch ps) i = .ok r) :
    ∃ idx ba p i' r', switchArgs ps.length i.args = .ok (idx, ba) ∧ ps[idx]? = some p ∧
      run ds m p i' = .ok r' ∧ i'.args = ba ∧ i'.c = i.c ∧ r.tr = .switch i.args idx r'.tr := by
  cases m
  case upd =>
    obtain ⟨a, oidx, osub, ho⟩ := run_switch_upd_old h
    cases hch : i.changed with
    | false =>
      obtain ⟨ba, hsa, r', hr, rfl⟩ := (run_switch_upd_same ho hch).1 h
      obtain ⟨p, hp, hr⟩ := runNth_ok.1 hr
      exact ⟨oidx, ba, p, _, r', hsa, hp, hr, rfl, rfl, rfl⟩
    | true =>
      obtain ⟨idx, ba, hsa, _, _, r', hr, rfl⟩ := (run_switch_upd_fresh ho hch).1 h
      obtain ⟨p, hp, hr⟩ := runNth_ok.1 hr
      exact ⟨idx, ba, p, _, r', hsa, hp, hr, rfl, rfl, rfl⟩
  case regen => exact absurd h run_switch_regen
  all_goals
    obtain ⟨idx, ba, hsa, r', hr, rfl⟩ := (run_switch_plain (by simp)).1 h
    obtain ⟨p, hp, hr⟩ := runNth_ok.1 hr
    exact ⟨idx, ba, p, _, r', hsa, hp, hr, rfl, rfl, rfl⟩

theorem run_mask_form {ds m p i r} (h : run ds m (.mask p) i = .ok r) :
    ∃ check iargs i' r', maskArgs i.args = .ok (check, iargs) ∧ run ds m p i' = .ok r' ∧
      i'.args = .tup iargs ∧ i'.c = i.c ∧ r.tr = .mask check r'.tr := by
  cases m
  case upd =>
    obtain ⟨pre, inner, ho⟩ := run_mask_upd_old h
    obtain ⟨check, iargs, hma, r', hr, rfl⟩ := (run_mask_upd ho).1 h
    exact ⟨check, iargs, _, r', hma, hr, rfl, rfl, rfl⟩
  case regen => exact absurd h run_mask_regen
  all_goals
    obtain ⟨check, iargs, hma, r', hr, rfl⟩ := (run_mask_plain (by simp)).1 h
    exact ⟨check, iargs, _, r', hma, hr, rfl, rfl, rfl⟩

theorem dimapOld_edit {m t o'} (hm : m = .upd ∨ m = .regen) (h : dimapOld m (some t) = .ok o') :
    ∃ a r inner, t = .dimap a r inner ∧ o' = some inner := by
  cases t with
  | dimap a r inner => rcases hm with rfl | rfl <;> cases h <;> exact ⟨a, r, inner, rfl, rfl⟩
  | _ => rcases hm with rfl | rfl <;> cases h

theorem run_dimap {ds m pre p post i r} : run ds m (.dimap pre p post) i = .ok r ↔
    ∃ as, argList i.args = .ok as ∧ ∃ ia, pre.apply as = .ok ia ∧ ∃ o, dimapOld m i.old = .ok o ∧
      ∃ r', run ds m p { i with old := o, args := .tup ia } = .ok r' ∧
      ∃ rv, Expr.eval [i.args, .tup ia, r'.tr.ret] post = .ok rv ∧
        ⟨.dimap i.args rv r'.tr, r'.w, r'.bwd, r'.bwdOk⟩ = r := by
  simp only [run, dimapRun, bind_eq_ok, pure_eq_ok]

end GenjaxVerif.GFI
