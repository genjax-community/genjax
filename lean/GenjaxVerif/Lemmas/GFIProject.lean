import GenjaxVerif.Lemmas.GFITrace
import GenjaxVerif.Props.C18
/-! `project` splits the score along a selection. -/
namespace GenjaxVerif.GFI
open GenjaxVerif

theorem check_eq_mem_nil (s : Sel) : s.check = Sel.mem s [] := rfl

mutual
/-- Every static-language body traces pairwise distinct addresses (what `AddressReuse` enforces). -/
def DistinctAddrs : Prog → Prop
  | .dist _ => True
  | .static b => DistinctBody [] b
  | .vmap p _ => DistinctAddrs p
  | .scan p _ => DistinctAddrs p
  | .switch ps => DistinctL ps
  | .mask p => DistinctAddrs p
  | .dimap _ p _ => DistinctAddrs p
def DistinctL : List Prog → Prop
  | [] => True
  | p :: ps => DistinctAddrs p ∧ DistinctL ps
def DistinctBody : List (List String) → Body → Prop
  | _, .ret _ => True
  | seen, .bind a p _ rest => a ∉ seen ∧ DistinctAddrs p ∧ DistinctBody (a :: seen) rest
end

theorem distinctL_mem {ps : List Prog} (hd : DistinctL ps) : ∀ p ∈ ps, DistinctAddrs p := by
  induction ps with
  | nil => exact fun _ h => nomatch h
  | cons q ps ih => exact fun p h => (List.mem_cons.1 h).elim (· ▸ hd.1) (ih hd.2 p)

theorem projectNth_eq (ps : List Prog) (k : Nat) (t : Trace) (s : Sel) :
    projectNth ps k t s = match ps[k]? with | some p => project p t s | none => .error .shape := by
  induction ps generalizing k with
  | nil => rfl
  | cons p ps ih =>
    cases k with
    | zero => rfl
    | succ k => exact ih k

theorem project_vec {p q a rt es s} (hq : IsVec p q) :
    project q (.vec a rt es) s = projectL (fun t => project p t s) es := by
  cases hq <;> simp only [project]

theorem projectL_sum {f g : Trace → Except Err Int} {P : Trace → Prop} (ts : List Trace) (a b : Int)
    (hP : ∀ t ∈ ts, P t) (hfg : ∀ t x y, P t → f t = .ok x → g t = .ok y → x + y = t.score)
    (ha : projectL f ts = .ok a) (hb : projectL g ts = .ok b) : a + b = Trace.scoreL ts := by
  induction ts generalizing a b with
  | nil => cases ha; cases hb; rfl
  | cons t ts ih =>
    simp only [projectL, bind_eq_ok, pure_eq_ok] at ha hb
    obtain ⟨x, hx, xs, hxs, rfl⟩ := ha
    obtain ⟨y, hy, ys, hys, rfl⟩ := hb
    rw [Trace.scoreL, ← hfg t x y (hP t List.mem_cons_self) hx hy,
      ← ih xs ys (fun t ht => hP t (List.mem_cons_of_mem _ ht)) hxs hys]
    exact add_add_add_comm ..

/-- The body walk: the projection looks every address up in all of `subs = pre ++ suf`; with distinct
    addresses, those of `pre` already seen, the remaining statements find exactly the entries of `suf`. -/
theorem projectBody_split (bd : Body)
    (hP : ∀ p ∈ Body.progs bd, ∀ (t : Trace) (s1 s2 : Sel) (a b : Int), Shape p t → DistinctAddrs p →
      (∀ q, Sel.mem s2 q = !Sel.mem s1 q) → project p t s1 = .ok a → project p t s2 = .ok b → a + b = t.score)
    (subs pre suf : List (List String × Trace)) (seen : List (List String)) (s1 s2 : Sel) (a b : Int)
    (hsub : subs = pre ++ suf) (hs : ShapeBody bd suf) (hseen : ∀ x, x ∈ seen ↔ x ∈ pre.map (·.1))
    (hd : DistinctBody seen bd) (hc : ∀ q, Sel.mem s2 q = !Sel.mem s1 q)
    (ha : projectBody bd subs s1 = .ok a) (hb : projectBody bd subs s2 = .ok b) : a + b = Trace.scoreAL suf := by
  induction bd using Body.ind generalizing pre suf seen a b with
  | ret e => cases hs; cases ha; cases hb; rfl
  | bind addr p aes rest ih =>
    obtain ⟨t, suf', rfl, hst, hrest⟩ := shapeBody_bind.1 hs
    obtain ⟨hnot, hdp, hdrest⟩ := hd
    have hl : lookupSub subs addr = some t :=
      hsub ▸ lookupSub_append_hit (lookupSub_eq_none_iff.2 fun h => hnot ((hseen addr).2 h))
    simp only [projectBody, hl, bind_eq_ok, pure_eq_ok] at ha hb
    obtain ⟨x1, hx1, r1, hr1, rfl⟩ := ha
    obtain ⟨x2, hx2, r2, hr2, rfl⟩ := hb
    have h1 := hP p (List.mem_cons_self ..) t (s1.subs addr) (s2.subs addr) x1 x2 hst hdp
      (fun q => by rw [Sel.C18_subs_mem, Sel.C18_subs_mem, hc]) hx1 hx2
    have h2 := ih (fun q hq => hP q (List.mem_cons_of_mem _ hq)) (pre ++ [(addr, t)]) suf' (addr :: seen) r1 r2
      (by rw [hsub, List.append_assoc]; rfl) hrest
      (fun y => by
        rw [List.mem_cons, hseen y, List.map_append, List.mem_append, List.map_singleton, List.mem_singleton]
        exact Or.comm)
      hdrest hr1 hr2
    rw [Trace.scoreAL, ← h1, ← h2]
    exact add_add_add_comm ..

theorem project_split : ∀ (p : Prog) (t : Trace) (s1 s2 : Sel) (a b : Int), Shape p t → DistinctAddrs p →
    (∀ q, Sel.mem s2 q = !Sel.mem s1 q) →
    project p t s1 = .ok a → project p t s2 = .ok b → a + b = t.score := by
  intro p t s1 s2 a b hs hd hc ha hb
  induction p using Prog.ind generalizing t s1 s2 a b with
  | dist d =>
    cases t <;> simp only [Shape] at hs
    simp only [project, check_eq_mem_nil, hc, Except.ok.injEq] at ha hb
    subst ha hb
    by_cases hm : Sel.mem s1 [] = true <;> simp [hm, Trace.score]
  | static bd ih =>
    cases t <;> simp only [Shape] at hs
    exact projectBody_split bd ih _ [] _ [] s1 s2 a b (by simp) hs (by simp) hd hc ha hb
  | vec p q hq ih =>
    obtain ⟨_, _, es, rfl⟩ := shape_vec_inv hq hs
    rw [project_vec hq] at ha hb
    have hd' : DistinctAddrs p := by cases hq <;> exact hd
    exact projectL_sum (P := Shape p) es a b ((shape_vec hq).1 hs)
      (fun t x y ht hx hy => ih t s1 s2 x y ht hd' hc hx hy) ha hb
  | switch ps ih =>
    cases t <;> simp only [Shape] at hs
    obtain ⟨p, hp, hsp⟩ := shapeNth_iff.1 hs
    simp only [project, projectNth_eq, hp] at ha hb
    exact (ih p (List.mem_of_getElem? hp) _ s1 s2 a b hsp (distinctL_mem hd p (List.mem_of_getElem? hp)) hc ha hb :)
  | mask p _ => simp [project] at ha
  | dimap pre p post ih =>
    cases t <;> simp only [Shape] at hs
    exact (ih _ s1 s2 a b hs hd hc ha hb :)

theorem project_split_nth : ∀ (ps : List Prog) (k : Nat) (t : Trace) (s1 s2 : Sel) (a b : Int), ShapeNth ps k t →
    DistinctL ps → (∀ q, Sel.mem s2 q = !Sel.mem s1 q) →
    projectNth ps k t s1 = .ok a → projectNth ps k t s2 = .ok b → a + b = t.score := by
  intro ps k t s1 s2 a b hs hd hc ha hb
  obtain ⟨p, hp, hsp⟩ := shapeNth_iff.1 hs
  simp only [projectNth_eq, hp] at ha hb
  exact project_split p t s1 s2 a b hsp (distinctL_mem hd p (List.mem_of_getElem? hp)) hc ha hb

theorem projectL_zero {f : Trace → Except Err Int} (ts : List Trace) (a : Int) (hf : ∀ t x, f t = .ok x → x = 0)
    (ha : projectL f ts = .ok a) : a = 0 := by
  induction ts generalizing a with
  | nil => cases ha; rfl
  | cons t ts ih =>
    simp only [projectL, bind_eq_ok, pure_eq_ok] at ha
    obtain ⟨x, hx, xs, hxs, rfl⟩ := ha
    rw [hf t x hx, ih xs hxs]
    rfl

theorem projectBody_none (bd : Body)
    (hP : ∀ p ∈ Body.progs bd, ∀ (t : Trace) (s : Sel) (a : Int), (∀ q, Sel.mem s q = false) → project p t s = .ok a → a = 0)
    (subs : List (List String × Trace)) (s : Sel) (a : Int) (hc : ∀ q, Sel.mem s q = false)
    (ha : projectBody bd subs s = .ok a) : a = 0 := by
  induction bd using Body.ind generalizing a with
  | ret e => cases ha; rfl
  | bind addr p aes rest ih =>
    simp only [projectBody] at ha
    split at ha
    · simp only [bind_eq_ok, pure_eq_ok] at ha
      obtain ⟨x, hx, r, hr, rfl⟩ := ha
      rw [hP p (List.mem_cons_self ..) _ (s.subs addr) x (fun q => by rw [Sel.C18_subs_mem, hc]) hx,
        ih (fun q hq => hP q (List.mem_cons_of_mem _ hq)) r hr]
      rfl
    · cases ha

theorem project_none : ∀ (p : Prog) (t : Trace) (s : Sel) (a : Int),
    (∀ q, Sel.mem s q = false) → project p t s = .ok a → a = 0 := by
  intro p t s a hc ha
  induction p using Prog.ind generalizing t s a with
  | dist d =>
    cases t <;> simp only [project, reduceCtorEq] at ha
    simp only [check_eq_mem_nil, hc] at ha; simp at ha; exact ha.symm
  | static bd ih =>
    cases t <;> simp only [project, reduceCtorEq] at ha
    exact projectBody_none bd ih _ s a hc ha
  | vec p q hq ih =>
    cases hq <;> cases t <;> simp only [project, reduceCtorEq] at ha <;>
      exact projectL_zero _ a (fun t x hx => ih t s x hc hx) ha
  | switch ps ih =>
    cases t <;> simp only [project, reduceCtorEq] at ha
    rw [projectNth_eq] at ha
    split at ha
    · next p hp => exact ih p (List.mem_of_getElem? hp) _ s a hc ha
    · cases ha
  | mask p _ => simp [project] at ha
  | dimap pre p post ih =>
    cases t <;> simp only [project, reduceCtorEq] at ha
    exact ih _ s a hc ha

theorem project_none_nth : ∀ (ps : List Prog) (k : Nat) (t : Trace) (s : Sel) (a : Int),
    (∀ q, Sel.mem s q = false) → projectNth ps k t s = .ok a → a = 0 := by
  intro ps k t s a hc ha
  rw [projectNth_eq] at ha
  split at ha
  · next p _ => exact project_none p t s a hc ha
  · cases ha

theorem project_none_body : ∀ (bd : Body) (subs : List (List String × Trace)) (s : Sel) (a : Int),
    (∀ q, Sel.mem s q = false) → projectBody bd subs s = .ok a → a = 0 := fun bd =>
  projectBody_none bd fun p _ => project_none p

end GenjaxVerif.GFI
