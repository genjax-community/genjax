import GenjaxVerif.Model.Sel
/-! Model A (selections): every simplifying constructor preserves the reference meaning `den`;
    `check` is `den` at the empty address, so its laws are the `den` laws read there. -/
namespace GenjaxVerif.Sel

@[simp] theorem mkAnd_all_left (b : Sel) : mkAnd all b = b := rfl
@[simp] theorem mkAnd_all_right (a : Sel) : mkAnd a all = a := by cases a <;> rfl
@[simp] theorem mkAnd_none_left (b : Sel) : mkAnd none b = none := by cases b <;> rfl
@[simp] theorem mkAnd_none_right (a : Sel) : mkAnd a none = none := by cases a <;> rfl
@[simp] theorem mkAnd_self (a : Sel) : mkAnd a a = a := by cases a <;> simp [mkAnd]

@[simp] theorem mkOr_all_left (b : Sel) : mkOr all b = all := rfl
@[simp] theorem mkOr_all_right (a : Sel) : mkOr a all = all := by cases a <;> rfl
@[simp] theorem mkOr_none_left (b : Sel) : mkOr none b = b := by cases b <;> rfl
@[simp] theorem mkOr_none_right (a : Sel) : mkOr a none = a := by cases a <;> rfl
@[simp] theorem mkOr_self (a : Sel) : mkOr a a = a := by cases a <;> simp [mkOr]

theorem mkAnd_generic (a b : Sel) (ha : a ≠ all) (ha' : a ≠ none) (hb : b ≠ all) (hb' : b ≠ none)
    (hab : a ≠ b) : mkAnd a b = and a b := by
  unfold mkAnd
  split
  · exact absurd rfl ha
  · exact absurd rfl hb
  · exact absurd rfl ha'
  · exact absurd rfl hb'
  · exact if_neg hab

theorem mkOr_generic (a b : Sel) (ha : a ≠ all) (ha' : a ≠ none) (hb : b ≠ all) (hb' : b ≠ none)
    (hab : a ≠ b) : mkOr a b = or a b := by
  unfold mkOr
  split
  · exact absurd rfl ha
  · exact absurd rfl hb
  · exact absurd rfl ha'
  · exact absurd rfl hb'
  · exact if_neg hab

theorem den_mkCompl (s : Sel) (p : List String) : den (mkCompl s) p = !den s p := by
  unfold mkCompl
  split <;> simp only [den, Bool.not_true, Bool.not_false, Bool.not_not]

theorem den_mkAnd (a b : Sel) (p : List String) : den (mkAnd a b) p = (den a p && den b p) := by
  unfold mkAnd
  split
  · simp only [den, Bool.true_and]
  · simp only [den, Bool.and_true]
  · simp only [den, Bool.false_and]
  · simp only [den, Bool.and_false]
  · split
    · next h => rw [← h, Bool.and_self]
    · rfl

theorem den_mkOr (a b : Sel) (p : List String) : den (mkOr a b) p = (den a p || den b p) := by
  unfold mkOr
  split
  · simp only [den, Bool.true_or]
  · simp only [den, Bool.or_true]
  · simp only [den, Bool.false_or]
  · simp only [den, Bool.or_false]
  · split
    · next h => rw [← h, Bool.or_self]
    · rfl

theorem den_mkStat (s : Sel) (a : XAddr) (p : List String) : den (mkStat s a) p = den (stat s a) p := by
  unfold mkStat
  split
  · cases p <;> simp only [den, Bool.and_false]
  · rfl

theorem check_eq_den (s : Sel) : check s = den s [] := by
  induction s with
  | all | none | leaf | stat => rfl
  | compl s ih => simp only [check, den, ih]
  | and a b iha ihb => simp only [check, den, iha, ihb]
  | or a b iha ihb => simp only [check, den, iha, ihb]

theorem check_mkCompl (s : Sel) : check (mkCompl s) = !check s := by
  simp only [check_eq_den, den_mkCompl]

theorem check_mkAnd (a b : Sel) : check (mkAnd a b) = (check a && check b) := by
  simp only [check_eq_den, den_mkAnd]

theorem check_mkOr (a b : Sel) : check (mkOr a b) = (check a || check b) := by
  simp only [check_eq_den, den_mkOr]

theorem den_sub (s : Sel) (x : String) (q : List String) : den (sub s x) q = den s (x :: q) := by
  induction s generalizing q with
  | all | none | leaf => rfl
  | compl s ih => simp only [sub, den_mkCompl, den, ih]
  | stat s a ih =>
    cases a with
    | none => simp only [sub, den, Bool.true_and]
    | some y =>
      by_cases h : x = y
      · simp only [sub, den, if_pos h, beq_iff_eq.2 h, Bool.true_and]
      · simp only [sub, den, if_neg h, beq_eq_false_iff_ne.2 h, Bool.false_and]
  | and a b iha ihb => simp only [sub, den_mkAnd, den, iha, ihb]
  | or a b iha ihb => simp only [sub, den_mkOr, den, iha, ihb]

theorem subs_cons (s : Sel) (x : String) (q : List String) : subs s (x :: q) = subs (sub s x) q := rfl

@[simp] theorem subs_all (p : List String) : subs all p = all := by
  induction p with
  | nil => rfl
  | cons x q ih => exact (subs_cons all x q).trans ih

@[simp] theorem subs_none (p : List String) : subs none p = none := by
  induction p with
  | nil => rfl
  | cons x q ih => exact (subs_cons none x q).trans ih

theorem subs_append (s : Sel) (p q : List String) : subs s (p ++ q) = subs (subs s p) q :=
  List.foldl_append

end GenjaxVerif.Sel
