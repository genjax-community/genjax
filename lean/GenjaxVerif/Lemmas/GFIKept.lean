import GenjaxVerif.Lemmas.GFIUpdate
/-! What an edit leaves alone: `Update` keeps the value at every address the constraint does not validly
    constrain, `Regenerate` at every address the selection does not select. -/
namespace GenjaxVerif.GFI
open GenjaxVerif CMap

mutual
/-- `Kept c told tnew`: at every primitive choice that `c` does not validly constrain, `tnew`
    holds the value `told` held (same structure on both sides, the constraint narrowed along
    the address as lookups do). -/
def Kept : CMap → Trace → Trace → Prop
  | c, .dist _ _ ov _, .dist _ _ nv _ => validValue c = none → nv = ov
  | c, .static _ _ os, .static _ _ ns => KeptAL c os ns
  | c, .vec _ _ os, .vec _ _ ns => KeptL c 0 os ns
  | c, .switch _ oi os, .switch _ ni ns => oi = ni ∧ Kept c os ns
  | c, .mask _ oi, .mask _ ni => Kept c oi ni
  | c, .dimap _ _ oi, .dimap _ _ ni => Kept c oi ni
  | _, _, _ => False
def KeptL (c : CMap) (k : Nat) : List Trace → List Trace → Prop
  | [], [] => True
  | o :: os, n :: ns => Kept (CMap.sub c (.i k)) o n ∧ KeptL c (k + 1) os ns
  | _, _ => False
def KeptAL (c : CMap) : List (List String × Trace) → List (List String × Trace) → Prop
  | [], [] => True
  | (a, o) :: os, (b, n) :: ns => a = b ∧ Kept (CMap.subStatic c a) o n ∧ KeptAL c os ns
  | _, _ => False
end

theorem keptAL_snoc (c : CMap) (os ns : List (List String × Trace)) (a : List String) (o n : Trace)
    (h : KeptAL c os ns) (hk : Kept (CMap.subStatic c a) o n) : KeptAL c (os ++ [(a, o)]) (ns ++ [(a, n)]) := by
  induction os generalizing ns with
  | nil =>
    cases ns with
    | nil => exact ⟨rfl, hk, trivial⟩
    | cons _ _ => exact h.elim
  | cons x os ih =>
    cases ns with
    | nil => exact h.elim
    | cons y ns => exact ⟨h.1, h.2.1, ih ns h.2.2⟩

theorem keptL_of_get (c : CMap) (os ns : List Trace) (k : Nat) (hl : os.length = ns.length)
    (h : ∀ j (h1 : j < os.length) (h2 : j < ns.length), Kept (CMap.sub c (.i (k + j))) os[j] ns[j]) :
    KeptL c k os ns := by
  induction os generalizing ns k with
  | nil =>
    cases ns with
    | nil => trivial
    | cons _ _ => cases hl
  | cons o os ih =>
    cases ns with
    | nil => cases hl
    | cons n ns =>
      refine ⟨h 0 (Nat.zero_lt_succ _) (Nat.zero_lt_succ _), ih ns (k + 1) (Nat.succ.inj hl) fun j h1 h2 => ?_⟩
      rw [Nat.add_right_comm]
      exact h (j + 1) (Nat.succ_lt_succ h1) (Nat.succ_lt_succ h2)

theorem leaf_upd_kept {ds d i r told} (h : leaf ds .upd d i = .ok r) (ho : i.old = some told) :
    Kept i.c told r.tr := by
  obtain ⟨_, _, _, _, ho'⟩ := leaf_edit_old (.inl rfl) h
  cases ho.symm.trans ho'
  cases (leaf_upd ho).symm.trans h
  intro hv; simp [hv]

theorem upd_kept (ds : DistSem) : ∀ (p : Prog) (i : In) (r : Res) (told : Trace),
    run ds .upd p i = .ok r → i.old = some told → Shape p told → Safe i.changed p → Kept i.c told r.tr := by
  intro p i r told h ho hs hsafe
  induction p using Prog.ind generalizing i r told with
  | dist d => exact leaf_upd_kept h ho
  | static b ih =>
    obtain ⟨env, _, olds, holds, st, v, hb, rfl⟩ := run_static.1 h
    obtain ⟨a, rt, rfl⟩ := staticOlds_edit (.inl rfl) (ho ▸ holds)
    exact runBody_edit_inv (I := fun pre st => KeptAL i.c pre st.subs) (.inl rfl) b hb rfl hs rfl trivial
      fun p hp pre st addr t _ r hI hst hr =>
        keptAL_snoc i.c pre st.subs addr t r.tr hI (ih p hp _ r t hr rfl hst (safeBody_mem hsafe p hp))
  | vec p q hq ih =>
    obtain ⟨ret, rs, rfl, hlen, hel⟩ := run_vec hq h
    obtain ⟨a, rt, es, rfl⟩ := shape_vec_inv hq hs
    refine keptL_of_get i.c es _ 0 (by simpa using checkOldLen_vec ho hlen) fun k h1 h2 => ?_
    obtain ⟨ik, hin, hr⟩ := hel k (by simpa using h2)
    simpa [hin.c] using ih ik _ _ hr (hin.old_get ho h1) ((shape_vec hq).1 hs _ (List.getElem_mem h1))
      (hin.changed ▸ safe_elem hq hsafe)
  | switch ps ih =>
    obtain ⟨a, idx, osub, p, ba, r', rfl, hp, hsp, hsf, hch, hr, rfl⟩ := run_switch_upd_safe h ho hs hsafe
    exact ⟨rfl, (ih p (List.mem_of_getElem? hp) _ r' osub hr rfl hsp (hch ▸ hsf) :)⟩
  | mask p ih =>
    obtain ⟨pre, inner, ho'⟩ := run_mask_upd_old h
    cases ho.symm.trans ho'
    obtain ⟨check, iargs, _, r', hr, rfl⟩ := (run_mask_upd ho).1 h
    exact (ih _ r' inner hr rfl hs hsafe :)
  | dimap pre p post ih =>
    obtain ⟨as, _, ia, _, o, ho', r', hr, rv, _, rfl⟩ := run_dimap.1 h
    obtain ⟨a, rt, inner, rfl, rfl⟩ := dimapOld_edit (.inl rfl) (ho ▸ ho')
    exact (ih _ r' inner hr rfl hs hsafe :)

theorem upd_kept_nth (ds : DistSem) : ∀ (ps : List Prog) (k : Nat) (i : In) (r : Res) (told : Trace),
    runNth ds .upd ps k i = .ok r → i.old = some told → ShapeNth ps k told → SafeL i.changed ps →
    Kept i.c told r.tr := by
  intro _ _ i r told h ho hs hsafe
  obtain ⟨p, hp, hr, hsp⟩ := runNth_shape h hs
  exact upd_kept ds p i r told hr ho hsp (safeL_nth hsafe hp)

theorem upd_kept_body (ds : DistSem) : ∀ (b : Body) (i : In) (olds env) (st st' : SState) (v : Val)
    (pre suf : List (List String × Trace)),
    runBody ds .upd b i olds env st = .ok (st', v) → olds = pre ++ suf → ShapeBody b suf →
    st.subs.map (·.1) = pre.map (·.1) → KeptAL i.c pre st.subs → SafeBody i.changed b →
    KeptAL i.c olds st'.subs := fun b i _ _ _ _ _ _ _ h ho hs hk hI hsafe =>
  runBody_edit_inv (I := fun pre st => KeptAL i.c pre st.subs) (.inl rfl) b h ho hs hk hI
    fun p hp pre st addr t _ r hI hst hr =>
      keptAL_snoc i.c pre st.subs addr t r.tr hI (upd_kept ds p _ r t hr rfl hst (safeBody_mem hsafe p hp))

mutual
/-- `KeptS s told tnew`: every primitive choice the selection does not select keeps its value
    (index levels are transparent to selections). -/
def KeptS : Sel → Trace → Trace → Prop
  | s, .dist _ _ ov _, .dist _ _ nv _ => s.check = false → nv = ov
  | s, .static _ _ os, .static _ _ ns => KeptSAL s os ns
  | s, .vec _ _ os, .vec _ _ ns => KeptSL s os ns
  | s, .switch _ _ os, .switch _ _ ns => KeptS s os ns
  | s, .mask _ oi, .mask _ ni => KeptS s oi ni
  | s, .dimap _ _ oi, .dimap _ _ ni => KeptS s oi ni
  | _, _, _ => False
def KeptSL (s : Sel) : List Trace → List Trace → Prop
  | [], [] => True
  | o :: os, n :: ns => KeptS s o n ∧ KeptSL s os ns
  | _, _ => False
def KeptSAL (s : Sel) : List (List String × Trace) → List (List String × Trace) → Prop
  | [], [] => True
  | (a, o) :: os, (b, n) :: ns => a = b ∧ KeptS (s.subs a) o n ∧ KeptSAL s os ns
  | _, _ => False
end

theorem keptSAL_snoc (s : Sel) (os ns : List (List String × Trace)) (a : List String) (o n : Trace)
    (h : KeptSAL s os ns) (hk : KeptS (s.subs a) o n) : KeptSAL s (os ++ [(a, o)]) (ns ++ [(a, n)]) := by
  induction os generalizing ns with
  | nil =>
    cases ns with
    | nil => exact ⟨rfl, hk, trivial⟩
    | cons _ _ => exact h.elim
  | cons x os ih =>
    cases ns with
    | nil => exact h.elim
    | cons y ns => exact ⟨h.1, h.2.1, ih ns h.2.2⟩

theorem keptSL_of_get (s : Sel) (os ns : List Trace) (hl : os.length = ns.length)
    (h : ∀ j (h1 : j < os.length) (h2 : j < ns.length), KeptS s os[j] ns[j]) : KeptSL s os ns := by
  induction os generalizing ns with
  | nil =>
    cases ns with
    | nil => trivial
    | cons _ _ => cases hl
  | cons o os ih =>
    cases ns with
    | nil => cases hl
    | cons n ns =>
      exact ⟨h 0 (Nat.zero_lt_succ _) (Nat.zero_lt_succ _),
        ih ns (Nat.succ.inj hl) fun j h1 h2 => h (j + 1) (Nat.succ_lt_succ h1) (Nat.succ_lt_succ h2)⟩

theorem leaf_regen_kept {ds d i r told} (h : leaf ds .regen d i = .ok r) (ho : i.old = some told) :
    KeptS i.sel told r.tr := by
  obtain ⟨_, _, _, _, ho'⟩ := leaf_edit_old (.inr rfl) h
  cases ho.symm.trans ho'
  cases (leaf_regen ho).symm.trans h
  cases hs : i.sel.check <;> simp [KeptS, hs]

theorem regen_kept (ds : DistSem) : ∀ (p : Prog) (i : In) (r : Res) (told : Trace),
    run ds .regen p i = .ok r → i.old = some told → Shape p told → KeptS i.sel told r.tr := by
  intro p i r told h ho hs
  induction p using Prog.ind generalizing i r told with
  | dist d => exact leaf_regen_kept h ho
  | static b ih =>
    obtain ⟨env, _, olds, holds, st, v, hb, rfl⟩ := run_static.1 h
    obtain ⟨a, rt, rfl⟩ := staticOlds_edit (.inr rfl) (ho ▸ holds)
    exact runBody_edit_inv (I := fun pre st => KeptSAL i.sel pre st.subs) (.inr rfl) b hb rfl hs rfl trivial
      fun p hp pre st addr t _ r hI hst hr =>
        keptSAL_snoc i.sel pre st.subs addr t r.tr hI (ih p hp _ r t hr rfl hst)
  | vec p q hq ih =>
    obtain ⟨ret, rs, rfl, hlen, hel⟩ := run_vec hq h
    obtain ⟨a, rt, es, rfl⟩ := shape_vec_inv hq hs
    refine keptSL_of_get i.sel es _ (by simpa using checkOldLen_vec ho hlen) fun k h1 h2 => ?_
    obtain ⟨ik, hin, hr⟩ := hel k (by simpa using h2)
    simpa [hin.sel] using ih ik _ _ hr (hin.old_get ho h1) ((shape_vec hq).1 hs _ (List.getElem_mem h1))
  | switch ps ih => exact absurd h run_switch_regen
  | mask p ih => exact absurd h run_mask_regen
  | dimap pre p post ih =>
    obtain ⟨as, _, ia, _, o, ho', r', hr, rv, _, rfl⟩ := run_dimap.1 h
    obtain ⟨a, rt, inner, rfl, rfl⟩ := dimapOld_edit (.inr rfl) (ho ▸ ho')
    exact (ih _ r' inner hr rfl hs :)

theorem regen_kept_body (ds : DistSem) : ∀ (b : Body) (i : In) (olds env) (st st' : SState) (v : Val)
    (pre suf : List (List String × Trace)),
    runBody ds .regen b i olds env st = .ok (st', v) → olds = pre ++ suf → ShapeBody b suf →
    st.subs.map (·.1) = pre.map (·.1) → KeptSAL i.sel pre st.subs →
    KeptSAL i.sel olds st'.subs := fun b i _ _ _ _ _ _ _ h ho hs hk hI =>
  runBody_edit_inv (I := fun pre st => KeptSAL i.sel pre st.subs) (.inr rfl) b h ho hs hk hI
    fun p _ pre st addr t _ r hI hst hr =>
      keptSAL_snoc i.sel pre st.subs addr t r.tr hI (regen_kept ds p _ r t hr rfl hst)

end GenjaxVerif.GFI
