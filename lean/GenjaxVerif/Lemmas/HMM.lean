import GenjaxVerif.Model.HMM
import Mathlib.Algebra.BigOperators.Group.Finset.Basic
import Mathlib.Algebra.BigOperators.Ring.Finset
import Mathlib.Algebra.BigOperators.Field
import Mathlib.Algebra.Order.Field.Rat
import Mathlib.Algebra.Order.BigOperators.Ring.Finset
import Mathlib.Tactic.Ring
/-!
  Lemmas for `Props/C37.lean` (model I).  The forward pass is handled through the invariant
  `Σ_x α(x)·β(x)` (`sum_mul_future`), the backward sampler through a telescoping product over the
  reversed scan (`backwardScan_telescope`).
-/
namespace GenjaxVerif.HMM
open Finset

theorem getD_map_range {β : Type} (f : Nat → β) (d : β) {n i : Nat} (hi : i < n) :
    ((List.range n).map f).getD i d = f i := by
  simp [List.getD_eq_getElem?_getD, hi]

theorem vget_map_range (f : Nat → Rat) {n i : Nat} (hi : i < n) :
    vget ((List.range n).map f) i = f i :=
  getD_map_range f 0 hi

/-- By definition: `Finset.range n` is `List.range n` as a multiset. -/
theorem sum_map_range (f : Nat → Rat) (n : Nat) :
    ((List.range n).map f).sum = ∑ i ∈ range n, f i := rfl

theorem sum_eq_sum_vget (a : List Rat) : a.sum = ∑ i ∈ range a.length, vget a i := by
  induction a with
  | nil => rfl
  | cons x a ih =>
    rw [List.sum_cons, List.length_cons, Finset.sum_range_succ', ih, add_comm]
    rfl

theorem vget_normalise (l : List Rat) (i : Nat) : vget (normalise l) i = vget l i / l.sum := by
  unfold vget normalise
  rw [List.getD_eq_getElem?_getD, List.getD_eq_getElem?_getD, List.getElem?_map]
  cases l[i]? with
  | none => exact (zero_div _).symm
  | some x => rfl

theorem sum_map_div (l : List α) (f : α → Rat) (s : Rat) :
    (l.map fun x => f x / s).sum = (l.map f).sum / s := by
  simp only [div_eq_mul_inv, List.sum_map_mul_right]

theorem sum_normalise {l : List Rat} (hl : l.sum ≠ 0) : (normalise l).sum = 1 := by
  rw [normalise, sum_map_div l fun x => x, List.map_id', div_self hl]

theorem categorical_eq (l : List Rat) (s : Nat) : categorical l s = vget l s / l.sum :=
  vget_normalise l s

theorem categorical_normalise {l : List Rat} (hl : l.sum ≠ 0) (s : Nat) :
    categorical (normalise l) s = vget l s / l.sum := by
  rw [categorical_eq, sum_normalise hl, div_one, vget_normalise]

theorem sum_allSeqs_succ (n L : Nat) (F : List Nat → Rat) :
    ((allSeqs n (L + 1)).map F).sum =
      ∑ x ∈ range n, ((allSeqs n L).map fun xs => F (x :: xs)).sum := by
  rw [allSeqs, List.map_flatMap, List.flatMap_def, List.sum_flatten, List.map_map, sum_map_range]
  simp only [Function.comp_def, List.map_map]

theorem mem_allSeqs {n L : Nat} {s : List Nat} :
    s ∈ allSeqs n L ↔ s.length = L ∧ ∀ x ∈ s, x < n := by
  induction L generalizing s with
  | zero =>
    rw [allSeqs, List.mem_singleton]
    exact ⟨fun hs => hs ▸ ⟨rfl, fun _ hx => nomatch hx⟩, fun hs => List.eq_nil_of_length_eq_zero hs.1⟩
  | succ L ih =>
    simp only [allSeqs, List.mem_flatMap, List.mem_range, List.mem_map]
    constructor
    · rintro ⟨x, hx, u, hu, rfl⟩
      obtain ⟨hl, hu⟩ := ih.mp hu
      exact ⟨congrArg Nat.succ hl, List.forall_mem_cons.mpr ⟨hx, hu⟩⟩
    · rintro ⟨hl, hs⟩
      cases s with
      | nil => cases hl
      | cons a t =>
        obtain ⟨ha, ht⟩ := List.forall_mem_cons.mp hs
        exact ⟨a, ha, t, ih.mpr ⟨Nat.succ.inj hl, ht⟩, rfl⟩

theorem scanTerms_prod_chain (h : Hmm) (p : Nat) (xs ys : List Nat) :
    (scanTerms h (h.trans.getD p []) xs ys).prod = chain h p xs ys := by
  induction xs generalizing p ys with
  | nil => simp [scanTerms, chain]
  | cons x xs ih =>
    cases ys with
    | nil => simp [scanTerms, chain]
    | cons y ys =>
      rw [scanTerms, chain, List.prod_cons, ih]
      rfl

theorem scanJoint_eq_joint (h : Hmm) (seq ys : List Nat) : scanJoint h seq ys = joint h seq ys := by
  unfold scanJoint
  cases seq with
  | nil => simp [scanTerms, joint]
  | cons x xs =>
    cases ys with
    | nil => simp [scanTerms, joint]
    | cons y ys => rw [scanTerms, joint, List.prod_cons, scanTerms_prod_chain]

/-- The backward message `β`: the probability of the observations `ys` still to come when the
    current state is `x`. -/
def future (h : Hmm) (x : Nat) (ys : List Nat) : Rat :=
  ((allSeqs h.n ys.length).map fun xs => chain h x xs ys).sum

theorem future_nil (h : Hmm) (x : Nat) : future h x [] = 1 := List.sum_singleton

theorem future_cons (h : Hmm) (x y : Nat) (ys : List Nat) :
    future h x (y :: ys) =
      ∑ x' ∈ range h.n, mget h.trans x x' * mget h.obs x' y * future h x' ys := by
  rw [future, List.length_cons, sum_allSeqs_succ]
  exact Finset.sum_congr rfl fun x' _ => List.sum_map_mul_left ..

theorem dataLik_nil (h : Hmm) : dataLik h [] = 1 := List.sum_singleton

theorem dataLik_cons (h : Hmm) (y : Nat) (ys : List Nat) :
    dataLik h (y :: ys) =
      ∑ x ∈ range h.n, vget h.init x * mget h.obs x y * future h x ys := by
  rw [dataLik, List.length_cons, sum_allSeqs_succ]
  exact Finset.sum_congr rfl fun x _ => List.sum_map_mul_left ..

theorem Hmm.pos_iff {h : Hmm} {m : Nat} : h.pos m = true ↔ ∀ i < h.n,
    (0 < vget h.init i ∧ ∀ j < h.n, 0 < mget h.trans i j) ∧ ∀ y < m, 0 < mget h.obs i y := by
  simp only [Hmm.pos, Hmm.states, List.all_eq_true, List.mem_range, Bool.and_eq_true,
    decide_eq_true_eq]

theorem Hmm.pos_init {h : Hmm} {m : Nat} (hp : h.pos m = true) {i : Nat} (hi : i < h.n) :
    0 < vget h.init i :=
  (Hmm.pos_iff.mp hp i hi).1.1

theorem Hmm.pos_trans {h : Hmm} {m : Nat} (hp : h.pos m = true) {i j : Nat} (hi : i < h.n)
    (hj : j < h.n) : 0 < mget h.trans i j :=
  (Hmm.pos_iff.mp hp i hi).1.2 j hj

theorem Hmm.pos_obs {h : Hmm} {m : Nat} (hp : h.pos m = true) {i y : Nat} (hi : i < h.n)
    (hy : y < m) : 0 < mget h.obs i y :=
  (Hmm.pos_iff.mp hp i hi).2 y hy

theorem Hmm.symm_apply {h : Hmm} (hs : h.symm = true) {i j : Nat} (hi : i < h.n) (hj : j < h.n) :
    mget h.trans i j = mget h.trans j i := by
  simp only [Hmm.symm, Hmm.states, List.all_eq_true, List.mem_range, decide_eq_true_eq] at hs
  exact hs i hi j hj

/-- The forward variant reads the transition entry the textbook recursion needs. -/
def FwdOK (v : Fwd) (h : Hmm) : Prop :=
  ∀ i j, i < h.n → j < h.n → fwdEntry v h i j = mget h.trans j i

theorem fwdOK_textbook (h : Hmm) : FwdOK .textbook h := fun _ _ _ _ => rfl

theorem fwdOK_asWritten {h : Hmm} (hs : h.symm = true) : FwdOK .asWritten h :=
  fun _ _ hi hj => Hmm.symm_apply hs hi hj

theorem length_initAlpha (h : Hmm) (prev : List Rat) (y : Nat) :
    (initAlpha h prev y).length = h.n := by
  rw [initAlpha, List.length_map, Hmm.states, List.length_range]

theorem length_stepAlpha (v : Fwd) (h : Hmm) (prev : List Rat) (y : Nat) :
    (stepAlpha v h prev y).length = h.n := by
  rw [stepAlpha, List.length_map, Hmm.states, List.length_range]

theorem vget_initAlpha (h : Hmm) (prev : List Rat) (y : Nat) {x : Nat} (hx : x < h.n) :
    vget (initAlpha h prev y) x = mget h.obs x y * vget prev x := by
  rw [initAlpha, Hmm.states, vget_map_range _ hx]

theorem vget_stepAlpha {v : Fwd} {h : Hmm} (hv : FwdOK v h) (prev : List Rat) (y : Nat) {i : Nat}
    (hi : i < h.n) :
    vget (stepAlpha v h prev y) i = mget h.obs i y * ∑ j ∈ range h.n, vget prev j * mget h.trans j i := by
  rw [stepAlpha, Hmm.states, vget_map_range _ hi, sum_map_range]
  refine congrArg _ (Finset.sum_congr rfl fun j hj => ?_)
  rw [hv i j hi (Finset.mem_range.mp hj)]

/-- the final carry of `lax.scan(forward_pass, (k+1, a), ys)` -/
def finalAlpha (v : Fwd) (h : Hmm) : List Rat → List Nat → List Rat
  | a, [] => a
  | a, y :: ys => finalAlpha v h (stepAlpha v h a y) ys

theorem forwardScan_succ_cons (v : Fwd) (h : Hmm) (k : Nat) (a : List Rat) (y : Nat) (ys : List Nat) :
    forwardScan v h (k + 1) a (y :: ys) =
      (stepAlpha v h a y, normalise (stepAlpha v h a y)) :: forwardScan v h (k + 2) (stepAlpha v h a y) ys :=
  rfl

theorem forwardScan_zero_cons (v : Fwd) (h : Hmm) (a : List Rat) (y : Nat) (ys : List Nat) :
    forwardScan v h 0 a (y :: ys) =
      (initAlpha h a y, normalise (initAlpha h a y)) :: forwardScan v h 1 (initAlpha h a y) ys :=
  rfl

theorem length_forwardScan (v : Fwd) (h : Hmm) (k : Nat) (a : List Rat) (ys : List Nat) :
    (forwardScan v h k a ys).length = ys.length := by
  induction ys generalizing k a with
  | nil => rfl
  | cons y ys ih => exact congrArg Nat.succ (ih _ _)

theorem getLast_alphas (v : Fwd) (h : Hmm) (k : Nat) (a : List Rat) (ys : List Nat) :
    (a :: (forwardScan v h (k + 1) a ys).map (·.1)).getLast? = some (finalAlpha v h a ys) := by
  induction ys generalizing k a with
  | nil => simp [forwardScan, finalAlpha]
  | cons y ys ih =>
    rw [forwardScan_succ_cons, List.map_cons, List.getLast?_cons_cons]
    exact ih (k + 1) _

theorem forwardTotal_cons (v : Fwd) (h : Hmm) (y : Nat) (ys : List Nat) :
    forwardTotal v h (y :: ys) = (finalAlpha v h (initAlpha h h.init y) ys).sum := by
  unfold forwardTotal alphas
  rw [forwardScan_zero_cons, List.map_cons, getLast_alphas]

/-- `Σ_x α(x)·β(x)` is invariant under the forward recursion, so it equals the total mass of
    the final alpha (where `β = 1`); at the first alpha it is the marginal likelihood. -/
theorem sum_mul_future {v : Fwd} {h : Hmm} (hv : FwdOK v h) {a : List Rat} (ha : a.length = h.n)
    (ys : List Nat) :
    ∑ x ∈ range h.n, vget a x * future h x ys = (finalAlpha v h a ys).sum := by
  induction ys generalizing a with
  | nil => simp only [future_nil, mul_one, finalAlpha, sum_eq_sum_vget a, ha]
  | cons y ys ih =>
    rw [finalAlpha, ← ih (length_stepAlpha v h a y)]
    simp only [future_cons, Finset.mul_sum]
    rw [Finset.sum_comm]
    refine Finset.sum_congr rfl fun x' hx' => ?_
    rw [vget_stepAlpha hv a y (Finset.mem_range.mp hx'), Finset.mul_sum, Finset.sum_mul]
    exact Finset.sum_congr rfl fun x _ => by ring

theorem forwardTotal_eq_dataLik {v : Fwd} {h : Hmm} (hv : FwdOK v h) (ys : List Nat) :
    forwardTotal v h ys = dataLik h ys := by
  cases ys with
  | nil => exact (dataLik_nil h).symm
  | cons y ys =>
    rw [forwardTotal_cons, ← sum_mul_future hv (length_initAlpha h h.init y), dataLik_cons]
    refine Finset.sum_congr rfl fun x hx => ?_
    rw [vget_initAlpha h _ y (Finset.mem_range.mp hx), mul_comm (mget h.obs x y)]

def PosVec (n : Nat) (a : List Rat) : Prop := a.length = n ∧ ∀ i, i < n → 0 < vget a i

theorem posVec_initAlpha {h : Hmm} {m : Nat} (hp : h.pos m = true) {y : Nat} (hy : y < m) :
    PosVec h.n (initAlpha h h.init y) := by
  refine ⟨length_initAlpha h h.init y, fun i hi => ?_⟩
  rw [vget_initAlpha h _ y hi]
  exact Rat.mul_pos (Hmm.pos_obs hp hi hy) (Hmm.pos_init hp hi)

theorem sum_trans_pos {h : Hmm} {m : Nat} (hp : h.pos m = true) {a : List Rat} (ha : PosVec h.n a)
    {i : Nat} (hi : i < h.n) : 0 < ∑ j ∈ range h.n, vget a j * mget h.trans j i := by
  apply Finset.sum_pos
  · intro j hj
    exact Rat.mul_pos (ha.2 j (Finset.mem_range.mp hj)) (Hmm.pos_trans hp (Finset.mem_range.mp hj) hi)
  · exact ⟨i, Finset.mem_range.mpr hi⟩

theorem posVec_stepAlpha {v : Fwd} {h : Hmm} (hv : FwdOK v h) {m : Nat} (hp : h.pos m = true)
    {a : List Rat} (ha : PosVec h.n a) {y : Nat} (hy : y < m) : PosVec h.n (stepAlpha v h a y) := by
  refine ⟨length_stepAlpha v h a y, fun i hi => ?_⟩
  rw [vget_stepAlpha hv a y hi]
  exact Rat.mul_pos (Hmm.pos_obs hp hi hy) (sum_trans_pos hp ha hi)

theorem posVec_finalAlpha {v : Fwd} {h : Hmm} (hv : FwdOK v h) {m : Nat} (hp : h.pos m = true)
    {a : List Rat} (ha : PosVec h.n a) {ys : List Nat} (hys : ∀ y ∈ ys, y < m) :
    PosVec h.n (finalAlpha v h a ys) := by
  induction ys generalizing a with
  | nil => exact ha
  | cons y ys ih =>
    obtain ⟨hy, hys⟩ := List.forall_mem_cons.mp hys
    exact ih (posVec_stepAlpha hv hp ha hy) hys

theorem sum_pos_of_posVec {n : Nat} {a : List Rat} (ha : PosVec n a) (hn : 0 < n) : 0 < a.sum := by
  rw [sum_eq_sum_vget, ha.1]
  exact Finset.sum_pos (fun i hi => ha.2 i (Finset.mem_range.mp hi)) ⟨0, Finset.mem_range.mpr hn⟩

theorem dataLik_pos {h : Hmm} {m : Nat} (hp : h.pos m = true) (hn : 0 < h.n) {ys : List Nat}
    (hys : ∀ y ∈ ys, y < m) : 0 < dataLik h ys := by
  cases ys with
  | nil =>
    rw [dataLik_nil]
    decide
  | cons y ys =>
    obtain ⟨hy, hys⟩ := List.forall_mem_cons.mp hys
    rw [← forwardTotal_eq_dataLik (fwdOK_textbook h), forwardTotal_cons]
    exact sum_pos_of_posVec (posVec_finalAlpha (fwdOK_textbook h) hp (posVec_initAlpha hp hy) hys) hn

theorem backwardScan_snoc (h : Hmm) (k p : Nat) (F : List (List Rat)) (S : List Nat)
    (hl : F.length = S.length) (f' f : List Rat) (s' s : Nat) :
    backwardScan h k p (F ++ [f', f]) (S ++ [s', s]) =
      backwardScan h k p (F ++ [f']) (S ++ [s']) * categorical (backwardKernel h f s') s := by
  induction F generalizing S p k with
  | nil =>
    cases S with
    | nil => simp [backwardScan]
    | cons t S => cases hl
  | cons g F ih =>
    cases S with
    | nil => cases hl
    | cons t S =>
      simp only [List.cons_append, backwardScan]
      rw [ih (k + 1) t S (Nat.succ.inj hl), mul_assoc]

/-- In forward order: the first state is drawn last, from the backward kernel given its
    successor. -/
theorem backwardScan_reverse_cons (h : Hmm) (f f' : List Rat) (fs : List (List Rat)) (x x' : Nat)
    (xs : List Nat) (hl : fs.length = xs.length) :
    backwardScan h 0 0 (f :: f' :: fs).reverse (x :: x' :: xs).reverse =
      backwardScan h 0 0 (f' :: fs).reverse (x' :: xs).reverse
        * categorical (backwardKernel h f x') x := by
  simp only [List.reverse_cons, List.append_assoc, List.cons_append, List.nil_append]
  exact backwardScan_snoc h 0 0 _ _ (by rw [List.length_reverse, List.length_reverse, hl]) f' f x' x

/-- The filter's normaliser cancels against the kernel's own. -/
theorem categorical_backwardKernel {h : Hmm} {a : List Rat} (hs : a.sum ≠ 0) {x x' : Nat}
    (hS : ∑ b ∈ range h.n, vget a b * mget h.trans b x' ≠ 0) (hx : x < h.n) :
    categorical (backwardKernel h (normalise a) x') x =
      vget a x * mget h.trans x x' / ∑ b ∈ range h.n, vget a b * mget h.trans b x' := by
  have hW : ((h.states.map fun b => vget (normalise a) b * mget h.trans b x')).sum
      = (∑ b ∈ range h.n, vget a b * mget h.trans b x') / a.sum := by
    rw [Hmm.states, sum_map_range, Finset.sum_div]
    exact Finset.sum_congr rfl fun b _ => by rw [vget_normalise, div_mul_eq_mul_div]
  rw [backwardKernel, categorical_normalise (hW ▸ div_ne_zero hS hs), hW, Hmm.states,
    vget_map_range _ hx, vget_normalise, div_mul_eq_mul_div, div_div_div_cancel_right₀ hs]

theorem backwardScan_telescope {v : Fwd} {h : Hmm} (hv : FwdOK v h) {m : Nat} (hp : h.pos m = true)
    (k : Nat) (a : List Rat) (ha : PosVec h.n a) (ys : List Nat) (hys : ∀ y ∈ ys, y < m) (x : Nat)
    (xs : List Nat) (hx : x < h.n) (hxs : ∀ z ∈ xs, z < h.n) (hl : xs.length = ys.length) :
    backwardScan h 0 0 (normalise a :: (forwardScan v h (k + 1) a ys).map (·.2)).reverse
        (x :: xs).reverse * (finalAlpha v h a ys).sum = vget a x * chain h x xs ys := by
  induction ys generalizing k a x xs with
  | nil =>
    cases xs with
    | cons _ _ => cases hl
    | nil =>
      have hs := (sum_pos_of_posVec ha (Nat.zero_lt_of_lt hx)).ne'
      -- one filter, one draw from it
      show categorical (normalise a) x * 1 * a.sum = vget a x * 1
      rw [mul_one, mul_one, categorical_normalise hs, div_mul_cancel₀ _ hs]
  | cons y ys ih =>
    cases xs with
    | nil => cases hl
    | cons x' xs =>
      obtain ⟨hy, hys⟩ := List.forall_mem_cons.mp hys
      obtain ⟨hx', hxs⟩ := List.forall_mem_cons.mp hxs
      have hs := (sum_pos_of_posVec ha (Nat.zero_lt_of_lt hx)).ne'
      have hS := (sum_trans_pos hp ha hx').ne'
      rw [forwardScan_succ_cons, List.map_cons,
        backwardScan_reverse_cons _ _ _ _ _ _ _
          ((List.length_map _).trans ((length_forwardScan ..).trans (Nat.succ.inj hl).symm)),
        finalAlpha, mul_right_comm,
        ih (k + 1) _ (posVec_stepAlpha hv hp ha hy) hys x' xs hx' hxs (Nat.succ.inj hl),
        categorical_backwardKernel hs hS hx, vget_stepAlpha hv a y hx', chain]
      -- the kernel's denominator `Σ_b a[b]·trans[b, x']` is, up to `obs[x', y]`, the next alpha at `x'`
      rw [mul_comm, div_mul_eq_mul_div, div_eq_iff hS]
      ring

theorem ffbsProb_eq_seqPosterior {v : Fwd} {h : Hmm} (hv : FwdOK v h) {m : Nat}
    (hp : h.pos m = true) {ys : List Nat} (hys : ∀ y ∈ ys, y < m) {seq : List Nat}
    (hseq : seq ∈ allSeqs h.n ys.length) : ffbsProb v h ys seq = seqPosterior h seq ys := by
  obtain ⟨hl, hr⟩ := mem_allSeqs.mp hseq
  unfold seqPosterior
  rw [scanJoint_eq_joint]
  cases ys with
  | nil =>
    cases seq with
    | cons _ _ => cases hl
    | nil =>
      rw [dataLik_nil, div_one]
      rfl
  | cons y ys =>
    cases seq with
    | nil => cases hl
    | cons x xs =>
      obtain ⟨hx, hxs⟩ := List.forall_mem_cons.mp hr
      have hZ : dataLik h (y :: ys) ≠ 0 := (dataLik_pos hp (Nat.zero_lt_of_lt hx) hys).ne'
      obtain ⟨hy, hys⟩ := List.forall_mem_cons.mp hys
      rw [ffbsProb, filters, forwardScan_zero_cons, List.map_cons, eq_div_iff hZ,
        ← forwardTotal_eq_dataLik hv, forwardTotal_cons,
        backwardScan_telescope hv hp 0 _ (posVec_initAlpha hp hy) ys hys x xs hx hxs (Nat.succ.inj hl),
        vget_initAlpha h _ y hx, joint]
      ring

theorem mget_circulant (c : List Rat) {i j : Nat} (hi : i < c.length) (hj : j < c.length) :
    mget (circulant c) i j = vget c ((i + c.length - j) % c.length) := by
  unfold mget circulant
  rw [getD_map_range _ _ hi, vget_map_range _ hj]

/-- `d` places right of the diagonal the circulant reads `c[N - d]`, `d` places below it `c[d]`. -/
theorem circulant_symm_add (c : List Rat)
    (hc : ∀ m, 0 < m → m < c.length → vget c m = vget c (c.length - m)) {i d : Nat}
    (h : i + d < c.length) : mget (circulant c) i (i + d) = mget (circulant c) (i + d) i := by
  have hi : i < c.length := Nat.lt_of_le_of_lt (Nat.le_add_right i d) h
  have hd : d < c.length := Nat.lt_of_le_of_lt (Nat.le_add_left d i) h
  rw [mget_circulant c hi h, mget_circulant c h hi, Nat.add_sub_add_left, Nat.add_assoc,
    Nat.add_sub_cancel_left, Nat.add_mod_right, Nat.mod_eq_of_lt hd]
  rcases Nat.eq_zero_or_pos d with rfl | hd0
  · rw [Nat.sub_zero, Nat.mod_self]
  · rw [Nat.mod_eq_of_lt (Nat.sub_lt (Nat.zero_lt_of_lt hd) hd0), hc d hd0 hd]

theorem circulant_symm (c : List Rat) (hc : ∀ m, 0 < m → m < c.length → vget c m = vget c (c.length - m))
    {i j : Nat} (hi : i < c.length) (hj : j < c.length) :
    mget (circulant c) i j = mget (circulant c) j i := by
  rcases Nat.le_total i j with hij | hji
  · obtain ⟨d, rfl⟩ := Nat.exists_eq_add_of_le hij
    exact circulant_symm_add c hc hj
  · obtain ⟨d, rfl⟩ := Nat.exists_eq_add_of_le hji
    exact (circulant_symm_add c hc hi).symm

theorem length_source (N k : Nat) (e d : Rat) : (source N k e d).length = N := by
  rw [source, List.length_map, List.length_range]

/-- With `N = m + m'`, entry `m` of the source lies `m` places from the start and `m'` from the
    end of the ring. -/
theorem vget_source_add (m m' k : Nat) (e d : Rat) (hm' : 0 < m') :
    vget (source (m + m') k e d) m =
      if m ≤ k then e ^ m else if m' ≤ k then e ^ m' else -d := by
  rw [source, vget_map_range _ (Nat.lt_add_of_pos_right hm')]
  simp only [Nat.add_le_add_iff_left, Nat.add_sub_cancel_left]

/-- `scaled_circulant`'s source is symmetric when the truncation does not wrap: `2 k ≤ N`. -/
theorem source_symm (N k : Nat) (e d : Rat) (hk : 2 * k ≤ N) {m : Nat} (h0 : 0 < m) (hm : m < N) :
    vget (source N k e d) m = vget (source N k e d) (N - m) := by
  obtain ⟨m', rfl⟩ := Nat.exists_eq_add_of_le hm.le
  rw [Nat.add_sub_cancel_left, vget_source_add m m' k e d (Nat.pos_of_lt_add_right hm),
    Nat.add_comm m m', vget_source_add m' m k e d h0]
  by_cases h1 : m ≤ k
  · simp only [if_pos h1]
    by_cases h2 : m' ≤ k
    · -- both within `k` of an end: `2 k ≤ m + m'` forces `m = k = m'`
      have hk : k + k ≤ m + m' := Nat.two_mul k ▸ hk
      have hkm : k ≤ m := Nat.le_of_add_le_add_right (hk.trans (Nat.add_le_add_left h2 m))
      have hkm' : k ≤ m' := Nat.le_of_add_le_add_left (hk.trans (Nat.add_le_add_right h1 m'))
      rw [if_pos h2, Nat.le_antisymm (h1.trans hkm') (h2.trans hkm)]
    · rw [if_neg h2]
  · simp only [if_neg h1]

end GenjaxVerif.HMM
