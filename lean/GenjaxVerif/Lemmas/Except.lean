/-! When a computation in `Except` succeeds: the inversion facts with which the lemma files take a `do` block apart. -/
namespace GenjaxVerif

variable {ε α β : Type _}

theorem bind_eq_ok {x : Except ε α} {f : α → Except ε β} {b : β} :
    (x >>= f) = .ok b ↔ ∃ a, x = .ok a ∧ f a = .ok b := by
  cases x with
  | error e => exact ⟨nofun, by rintro ⟨_, h, _⟩; cases h⟩
  | ok a => exact ⟨fun h => ⟨a, rfl, h⟩, by rintro ⟨_, h, hf⟩; cases h; exact hf⟩

theorem map_eq_ok {x : Except ε α} {f : α → β} {b : β} : x.map f = .ok b ↔ ∃ a, x = .ok a ∧ f a = b := by
  cases x with
  | error e => exact ⟨nofun, by rintro ⟨_, h, _⟩; cases h⟩
  | ok a => exact ⟨fun h => ⟨a, rfl, Except.ok.inj h⟩, by rintro ⟨_, h, rfl⟩; cases h; rfl⟩

theorem ite_error_eq_ok {c : Prop} [Decidable c] {e : ε} {x : Except ε α} {a : α} :
    (if c then .error e else x) = .ok a ↔ ¬ c ∧ x = .ok a := by
  split
  · next h => exact ⟨nofun, fun h' => absurd h h'.1⟩
  · next h => exact ⟨fun hx => ⟨h, hx⟩, fun h' => h'.2⟩

@[simp] theorem pure_eq_ok {a b : α} : (pure a : Except ε α) = .ok b ↔ a = b :=
  ⟨Except.ok.inj, congrArg Except.ok⟩

/-! How it fails, and the computation rules the `do` blocks of the models unfold to. -/

theorem bind_eq_error {x : Except ε α} {f : α → Except ε β} {e : ε} :
    (x >>= f) = .error e ↔ x = .error e ∨ ∃ a, x = .ok a ∧ f a = .error e := by
  cases x with
  | error e' =>
    exact ⟨fun h => .inl (Except.error.inj h ▸ rfl), fun h => h.elim (fun h => Except.error.inj h ▸ rfl)
      (by rintro ⟨_, h, _⟩; cases h)⟩
  | ok a => exact ⟨fun h => .inr ⟨a, rfl, h⟩, fun h => h.elim nofun (by rintro ⟨_, h, hf⟩; cases h; exact hf)⟩

theorem map_eq_error {x : Except ε α} {f : α → β} {e : ε} : x.map f = .error e ↔ x = .error e := by
  cases x with
  | error _ => exact ⟨fun h => Except.error.inj h ▸ rfl, fun h => Except.error.inj h ▸ rfl⟩
  | ok _ => exact ⟨nofun, nofun⟩

theorem ok_bind (a : α) (f : α → Except ε β) : (Except.ok a >>= f) = f a := rfl

theorem map_eq_bind (x : Except ε α) (g : α → β) : x.map g = x >>= fun a => .ok (g a) := by
  cases x <;> rfl

theorem map_bind' {γ : Type _} (x : Except ε α) (f : α → Except ε β) (g : β → γ) :
    (x >>= f).map g = x >>= fun a => (f a).map g := by
  cases x <;> rfl

theorem map_map' {γ : Type _} (x : Except ε α) (f : α → β) (g : β → γ) : (x.map f).map g = x.map fun a => g (f a) := by
  cases x <;> rfl

theorem bind_ok_right (x : Except ε α) : (x >>= fun a => .ok a) = x := by
  cases x <;> rfl

/-- Evaluation is deterministic: running `x` a second time yields the same result. -/
theorem bind_twice (x : Except ε α) (f : α → α → Except ε β) :
    (x >>= fun a => x >>= fun b => f a b) = x >>= fun a => f a a := by
  cases x <;> rfl

/-! For the examples and concrete witnesses: closed runs are compared by evaluation in the kernel (`decide +kernel`). -/

instance instDecEqExcept [DecidableEq ε] [DecidableEq α] : DecidableEq (Except ε α)
  | .ok a, .ok b => if h : a = b then isTrue (by rw [h]) else isFalse (fun e => h (Except.ok.inj e))
  | .error a, .error b =>
    if h : a = b then isTrue (by rw [h]) else isFalse (fun e => h (Except.error.inj e))
  | .ok _, .error _ => isFalse (fun e => nomatch e)
  | .error _, .ok _ => isFalse (fun e => nomatch e)

theorem exists_ok_of_decide {x : Except ε α} {P : α → Prop} [DecidablePred P]
    (h : (x.toOption.any fun a => decide (P a)) = true) : ∃ a, x = .ok a ∧ P a := by
  cases x with
  | error _ => cases h
  | ok a => exact ⟨a, rfl, of_decide_eq_true h⟩

end GenjaxVerif
