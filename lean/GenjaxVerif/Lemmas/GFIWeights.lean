import GenjaxVerif.Lemmas.CMap
import GenjaxVerif.Lemmas.GFIRun
/-! The weight laws of the operations that build a trace from nothing (`simulate`, `assess`, `generate`), and that
    `generate` / `update` install the constraint. -/
namespace GenjaxVerif.GFI
open GenjaxVerif

theorem leaf_assess_w {ds d i r} (h : leaf ds .assess d i = .ok r) : r.w = r.tr.score := by
  obtain ⟨v, _, rfl⟩ := leaf_assess.1 h; rfl

theorem assess_w (ds : DistSem) : ∀ (p : Prog) (i : In) (r : Res), run ds .assess p i = .ok r → r.w = r.tr.score := by
  intro p i r h
  induction p using Prog.ind generalizing i r with
  | dist d => exact leaf_assess_w h
  | static b ih =>
    obtain ⟨env, _, olds, _, st, v, hb, rfl⟩ := run_static.1 h
    exact runBody_inv (I := fun st => st.w = Trace.scoreAL st.subs) b hb rfl fun p hp _ _ _ _ _ hI _ hr => by
      simp [bindOut, scoreAL_append, Trace.scoreAL, hI, ih p hp _ _ hr]
  | vec p q hq ih =>
    obtain ⟨ret, rs, rfl, _, hel⟩ := run_vec hq h
    exact sumW_eq_scoreL fun k hk => let ⟨_, _, hr⟩ := hel k hk; ih _ _ hr
  | switch ps ih =>
    obtain ⟨idx, ba, _, r', hr, rfl⟩ := (run_switch_plain (.inr (.inl rfl))).1 h
    obtain ⟨p, hp, hr⟩ := runNth_ok.1 hr
    exact ih p (List.mem_of_getElem? hp) _ r' hr
  | mask p ih =>
    obtain ⟨check, iargs, _, r', hr, rfl⟩ := (run_mask_plain (.inr (.inl rfl))).1 h
    cases check <;> simp [Trace.score, ih _ _ hr]
  | dimap pre p post ih =>
    obtain ⟨as, _, ia, _, o, _, r', hr, rv, _, rfl⟩ := run_dimap.1 h
    exact ih _ r' hr

theorem assess_w_nth (ds : DistSem) : ∀ (ps : List Prog) (k : Nat) (i : In) (r : Res),
    runNth ds .assess ps k i = .ok r → r.w = r.tr.score := by
  intro _ _ i r h
  obtain ⟨p, _, hr⟩ := runNth_ok.1 h
  exact assess_w ds p i r hr

theorem assess_w_body (ds : DistSem) : ∀ (b : Body) (i : In) (olds env) (st st' : SState) (v : Val),
    runBody ds .assess b i olds env st = .ok (st', v) →
    st.w = Trace.scoreAL st.subs → st'.w = Trace.scoreAL st'.subs := fun b _ _ _ _ _ _ h hst =>
  runBody_inv (I := fun st => st.w = Trace.scoreAL st.subs) b h hst fun p _ _ _ _ _ _ hI _ hr => by
    simp [bindOut, scoreAL_append, Trace.scoreAL, hI, assess_w ds p _ _ hr]

theorem leaf_sim_w {ds d i r} (h : leaf ds .sim d i = .ok r) : r.w = 0 := by
  cases leaf_sim.symm.trans h; rfl

theorem sim_w (ds : DistSem) : ∀ (p : Prog) (i : In) (r : Res), run ds .sim p i = .ok r → r.w = 0 := by
  intro p i r h
  induction p using Prog.ind generalizing i r with
  | dist d => exact leaf_sim_w h
  | static b ih =>
    obtain ⟨env, _, olds, _, st, v, hb, rfl⟩ := run_static.1 h
    exact runBody_inv (I := fun st => st.w = 0) b hb rfl fun p hp _ _ _ _ _ hI _ hr => by
      simp [bindOut, hI, ih p hp _ _ hr]
  | vec p q hq ih =>
    obtain ⟨ret, rs, rfl, _, hel⟩ := run_vec hq h
    exact sumW_eq_zero fun k hk => let ⟨_, _, hr⟩ := hel k hk; ih _ _ hr
  | switch ps ih =>
    obtain ⟨idx, ba, _, r', hr, rfl⟩ := (run_switch_plain (.inl rfl)).1 h
    obtain ⟨p, hp, hr⟩ := runNth_ok.1 hr
    exact ih p (List.mem_of_getElem? hp) _ r' hr
  | mask p ih =>
    obtain ⟨check, iargs, _, r', hr, rfl⟩ := (run_mask_plain (.inl rfl)).1 h
    cases check <;> simp [ih _ _ hr]
  | dimap pre p post ih =>
    obtain ⟨as, _, ia, _, o, _, r', hr, rv, _, rfl⟩ := run_dimap.1 h
    exact ih _ r' hr

theorem sim_w_nth (ds : DistSem) : ∀ (ps : List Prog) (k : Nat) (i : In) (r : Res),
    runNth ds .sim ps k i = .ok r → r.w = 0 := by
  intro _ _ i r h
  obtain ⟨p, _, hr⟩ := runNth_ok.1 h
  exact sim_w ds p i r hr

theorem sim_w_body (ds : DistSem) : ∀ (b : Body) (i : In) (olds env) (st st' : SState) (v : Val),
    runBody ds .sim b i olds env st = .ok (st', v) → st.w = 0 → st'.w = 0 := fun b _ _ _ _ _ _ h hst =>
  runBody_inv (I := fun st => st.w = 0) b h hst fun p _ _ _ _ _ _ hI _ hr => by
    simp [bindOut, hI, sim_w ds p _ _ hr]

section
open CMap

/-- Does the constraint hold a usable value here (a bare value, or a mask with flag True)? -/
def validLeaf (c : CMap) : Bool :=
  match c.leaf with
  | some (.plain _) => true
  | some (.masked f _) => f
  | none => false

mutual
/-- Sum of the log-densities of the live choices of `t` whose address is validly constrained
    by `c` (the constraint is narrowed along the address exactly as `get_submap` does). -/
def cscore : CMap → Trace → Int
  | c, .dist _ _ _ lp => if validLeaf c then lp else 0
  | c, .static _ _ subs => cscoreAL c subs
  | c, .vec _ _ elems => cscoreL c 0 elems
  | c, .switch _ _ sub => cscore c sub
  | c, .mask f inner => if f then cscore c inner else 0
  | c, .dimap _ _ inner => cscore c inner
def cscoreL (c : CMap) (k : Nat) : List Trace → Int
  | [] => 0
  | t :: ts => cscore (CMap.sub c (.i k)) t + cscoreL c (k + 1) ts
def cscoreAL (c : CMap) : List (List String × Trace) → Int
  | [] => 0
  | (a, t) :: ts => cscore (CMap.subStatic c a) t + cscoreAL c ts
end

theorem cscoreAL_append (c : CMap) (a b : List (List String × Trace)) :
    cscoreAL c (a ++ b) = cscoreAL c a + cscoreAL c b := by
  induction a with
  | nil => simp [cscoreAL]
  | cons x xs ih => obtain ⟨k, t⟩ := x; simp [cscoreAL, ih, Int.add_assoc]

theorem validLeaf_eq (c : CMap) : validLeaf c = (validValue c).isSome := by
  unfold validLeaf validValue
  cases c.leaf with
  | none => rfl
  | some cv => cases cv with
    | plain v => rfl
    | masked f v => cases f <;> rfl

theorem leaf_gen_w {ds d i r} (h : leaf ds .gen d i = .ok r) : r.w = cscore i.c r.tr := by
  cases leaf_gen.symm.trans h
  cases hv : validValue i.c <;> simp [cscore, validLeaf_eq, hv]

theorem sumW_cscoreL (c : CMap) (rs : List Res) (k : Nat)
    (h : ∀ j (hj : j < rs.length), rs[j].w = cscore (CMap.sub c (.i (k + j))) rs[j].tr) :
    sumW rs = cscoreL c k (rs.map (·.tr)) := by
  induction rs generalizing k with
  | nil => rfl
  | cons r rs ih =>
    rw [sumW_cons, List.map_cons, cscoreL, show r.w = _ from h 0 (Nat.zero_lt_succ _), ih (k + 1) fun j hj => ?_]
    · rfl
    · rw [Nat.add_right_comm]
      exact h (j + 1) (Nat.succ_lt_succ hj)

theorem gen_w (ds : DistSem) : ∀ (p : Prog) (i : In) (r : Res), run ds .gen p i = .ok r → r.w = cscore i.c r.tr := by
  intro p i r h
  induction p using Prog.ind generalizing i r with
  | dist d => exact leaf_gen_w h
  | static b ih =>
    obtain ⟨env, _, olds, _, st, v, hb, rfl⟩ := run_static.1 h
    exact runBody_inv (I := fun st => st.w = cscoreAL i.c st.subs) b hb rfl fun p hp _ _ _ _ _ hI hi hr => by
      obtain ⟨_, _, o, _, rfl⟩ := bindIn_ok.1 hi
      simp [bindOut, cscoreAL_append, cscoreAL, hI, ih p hp _ _ hr]
  | vec p q hq ih =>
    obtain ⟨ret, rs, rfl, _, hel⟩ := run_vec hq h
    refine sumW_cscoreL i.c rs 0 fun k hk => ?_
    obtain ⟨ik, hin, hr⟩ := hel k hk
    simpa [hin.c] using ih _ _ hr
  | switch ps ih =>
    obtain ⟨idx, ba, _, r', hr, rfl⟩ := (run_switch_plain (.inr (.inr rfl))).1 h
    obtain ⟨p, hp, hr⟩ := runNth_ok.1 hr
    exact (ih p (List.mem_of_getElem? hp) _ _ hr :)
  | mask p ih =>
    obtain ⟨check, iargs, _, r', hr, rfl⟩ := (run_mask_plain (.inr (.inr rfl))).1 h
    have := ih _ r' hr
    cases check <;> simp [cscore, this]
  | dimap pre p post ih =>
    obtain ⟨as, _, ia, _, o, _, r', hr, rv, _, rfl⟩ := run_dimap.1 h
    exact (ih _ _ hr :)

theorem gen_w_nth (ds : DistSem) : ∀ (ps : List Prog) (k : Nat) (i : In) (r : Res),
    runNth ds .gen ps k i = .ok r → r.w = cscore i.c r.tr := by
  intro _ _ i r h
  obtain ⟨p, _, hr⟩ := runNth_ok.1 h
  exact gen_w ds p i r hr

theorem gen_w_body (ds : DistSem) : ∀ (b : Body) (i : In) (olds env) (st st' : SState) (v : Val),
    runBody ds .gen b i olds env st = .ok (st', v) →
    st.w = cscoreAL i.c st.subs → st'.w = cscoreAL i.c st'.subs := fun b i _ _ _ _ _ h hst =>
  runBody_inv (I := fun st => st.w = cscoreAL i.c st.subs) b h hst fun p _ _ _ _ _ _ hI hi hr => by
    obtain ⟨_, _, o, _, rfl⟩ := bindIn_ok.1 hi
    simp [bindOut, cscoreAL_append, cscoreAL, hI, gen_w ds p _ _ hr]

mutual
theorem cscore_nil : ∀ (t : Trace), cscore [] t = 0
  | .dist _ _ _ _ => by simp [cscore, validLeaf, CMap.leaf]
  | .static _ _ subs => by simp only [cscore]; exact cscoreAL_nil subs
  | .vec _ _ elems => by simp only [cscore]; exact cscoreL_nil 0 elems
  | .switch _ _ sub => by simp only [cscore]; exact cscore_nil sub
  | .mask f inner => by simp only [cscore, cscore_nil inner]; simp
  | .dimap _ _ inner => by simp only [cscore]; exact cscore_nil inner
theorem cscoreL_nil : ∀ (k : Nat) (ts : List Trace), cscoreL [] k ts = 0
  | _, [] => rfl
  | k, t :: ts => by simp only [cscoreL, sub_nil, cscore_nil t, cscoreL_nil (k + 1) ts]; rfl
theorem cscoreAL_nil : ∀ (subs : List (List String × Trace)), cscoreAL [] subs = 0
  | [] => rfl
  | (a, t) :: ts => by simp only [cscoreAL, subStatic_nil, cscore_nil t, cscoreAL_nil ts]; rfl
end

mutual
/-- `Agrees c t`: every primitive choice of `t` whose address `c` validly constrains holds the
    constraint's value. -/
def Agrees : CMap → Trace → Prop
  | c, .dist _ _ v _ => ∀ w, validValue c = some w → v = w
  | c, .static _ _ subs => AgreesAL c subs
  | c, .vec _ _ elems => AgreesL c 0 elems
  | c, .switch _ _ sub => Agrees c sub
  | c, .mask _ inner => Agrees c inner
  | c, .dimap _ _ inner => Agrees c inner
def AgreesL (c : CMap) (k : Nat) : List Trace → Prop
  | [] => True
  | t :: ts => Agrees (CMap.sub c (.i k)) t ∧ AgreesL c (k + 1) ts
def AgreesAL (c : CMap) : List (List String × Trace) → Prop
  | [] => True
  | (a, t) :: ts => Agrees (CMap.subStatic c a) t ∧ AgreesAL c ts
end

theorem agreesAL_append (c : CMap) (a b : List (List String × Trace)) :
    AgreesAL c (a ++ b) ↔ AgreesAL c a ∧ AgreesAL c b := by
  induction a with
  | nil => simp [AgreesAL]
  | cons x xs ih => simp [AgreesAL, ih, and_assoc]

theorem agreesL_of_get (c : CMap) (ts : List Trace) (k : Nat)
    (h : ∀ j (hj : j < ts.length), Agrees (CMap.sub c (.i (k + j))) ts[j]) : AgreesL c k ts := by
  induction ts generalizing k with
  | nil => trivial
  | cons t ts ih =>
    refine ⟨h 0 (Nat.zero_lt_succ _), ih (k + 1) fun j hj => ?_⟩
    rw [Nat.add_right_comm]
    exact h (j + 1) (Nat.succ_lt_succ hj)

theorem leaf_agrees {ds m d i r} (hm : m = .gen ∨ m = .upd) (h : leaf ds m d i = .ok r) : Agrees i.c r.tr := by
  rcases hm with rfl | rfl
  · cases leaf_gen.symm.trans h
    cases hv : validValue i.c <;> simp [Agrees, hv]
  · obtain ⟨_, _, _, _, ho⟩ := leaf_edit_old (.inl rfl) h
    cases (leaf_upd ho).symm.trans h
    intro w hw; simp [hw]

theorem run_agrees (ds : DistSem) (m : Mode) (hm : m = .gen ∨ m = .upd) :
    ∀ (p : Prog) (i : In) (r : Res), run ds m p i = .ok r → Agrees i.c r.tr := by
  intro p i r h
  induction p using Prog.ind generalizing m i r with
  | dist d => exact leaf_agrees hm h
  | static b ih =>
    obtain ⟨env, _, olds, _, st, v, hb, rfl⟩ := run_static.1 h
    exact runBody_inv (I := fun st => AgreesAL i.c st.subs) b hb trivial fun p hp _ _ _ _ _ hI hi hr => by
      obtain ⟨_, _, o, _, rfl⟩ := bindIn_ok.1 hi
      simpa [bindOut, agreesAL_append, AgreesAL, hI] using ih p hp m hm _ _ hr
  | vec p q hq ih =>
    obtain ⟨ret, rs, rfl, _, hel⟩ := run_vec hq h
    refine agreesL_of_get i.c _ 0 fun k hk => ?_
    obtain ⟨ik, hin, hr⟩ := hel k (by simpa using hk)
    simpa [hin.c] using ih m hm _ _ hr
  | switch ps ih =>
    obtain ⟨idx, ba, p, i', r', _, hp, hr, _, hc, htr⟩ := run_switch_form h
    simpa [htr, Agrees, hc] using ih p (List.mem_of_getElem? hp) m hm _ _ hr
  | mask p ih =>
    obtain ⟨check, iargs, i', r', _, hr, _, hc, htr⟩ := run_mask_form h
    simpa [htr, Agrees, hc] using ih m hm _ _ hr
  | dimap pre p post ih =>
    obtain ⟨as, _, ia, _, o, _, r', hr, rv, _, rfl⟩ := run_dimap.1 h
    exact (ih m hm _ _ hr :)

theorem run_agrees_nth (ds : DistSem) (m : Mode) (hm : m = .gen ∨ m = .upd) :
    ∀ (ps : List Prog) (k : Nat) (i : In) (r : Res), runNth ds m ps k i = .ok r → Agrees i.c r.tr := by
  intro _ _ i r h
  obtain ⟨p, _, hr⟩ := runNth_ok.1 h
  exact run_agrees ds m hm p i r hr

theorem run_agrees_body (ds : DistSem) (m : Mode) (hm : m = .gen ∨ m = .upd) :
    ∀ (b : Body) (i : In) (olds env) (st st' : SState) (v : Val),
    runBody ds m b i olds env st = .ok (st', v) → AgreesAL i.c st.subs → AgreesAL i.c st'.subs := fun b i _ _ _ _ _ h hst =>
  runBody_inv (I := fun st => AgreesAL i.c st.subs) b h hst fun p _ _ _ _ _ _ hI hi hr => by
    obtain ⟨_, _, o, _, rfl⟩ := bindIn_ok.1 hi
    simpa [bindOut, agreesAL_append, AgreesAL, hI] using run_agrees ds m hm p _ _ hr

end

end GenjaxVerif.GFI
