import GenjaxVerif.Model.TimeTravel
import GenjaxVerif.Lemmas.IR
/-!
  The CPS recorder (`ttCode` / `ttStack` / `recordLoop`) against the direct-style instrumented evaluator
  (`logCode` / `logStack`).  Rebind-mode evaluation is the value part of the instrumented one (`log_fst_stack`);
  one `time_travel` call finds the first logged call and a frame whose continuation logs the rest (`Good`,
  `good_stack`); so the `_record` loop replays the log (`record_obsP`).
-/
namespace GenjaxVerif.TT
open GenjaxVerif.IR

/-- `bind` of every `record_p` equation of the program (`initial_style_bind`'s `_impl`:
    `eval_jaxpr` of the staged callable on (hoisted constants, arguments)) is ordinary
    evaluation of the recorded body, and the primitive has `multiple_results`. -/
def RecSem (sem : Sem) : Code → Prop
  | .nil => True
  | .plain _ rest => RecSem sem rest
  | .recd q _ nc cv iv body ov rest =>
    q.multi = true ∧
    (∀ vs, sem q.prim q.params vs =
      (runStack sem (vs.drop nc) [.call ⟨vs.take nc, cv, iv, body, ov⟩]).map PrimOut.many) ∧
    RecSem sem body ∧ RecSem sem rest

def RecSemS (sem : Sem) : List Seg → Prop
  | [] => True
  | s :: ss => RecSem sem s.code ∧ RecSemS sem ss

theorem bind_ok' {α β} (a : α) (f : α → Except Err β) : (Except.ok a >>= f) = f a := ok_bind a f
theorem bind_err' {α β} (x : Err) (f : α → Except Err β) : (Except.error x >>= f) = .error x := rfl

theorem runStack_call (sem : Sem) (f : Fn) (args : List Val) :
    runStack sem args [.call f] = evalPlain sem f.jaxpr f.cs args := by
  rw [← evalStateful_eq_plain sem Handler.noop (fun _ => rfl)]
  simp only [runStack, Seg.enter, Seg.code, Seg.ret, evalStateful, Fn.jaxpr, Jaxpr.constvars, Jaxpr.invars,
    Jaxpr.eqns, Jaxpr.outvars, bind_assoc, bind_ok_right]

theorem loop_cons (sem : Sem) (e : Env Val) (q : Eqn) (qs : List Eqn) :
    loopStateful sem Handler.noop e (q :: qs) =
      stepStateful sem Handler.noop e q >>= fun e' => loopStateful sem Handler.noop e' qs := rfl

theorem runStack_cons (sem : Sem) (s : Seg) (ss : List Seg) (vs : List Val) :
    runStack sem vs (s :: ss) = runStack sem vs [s] >>= fun vs' => runStack sem vs' ss := by
  simp only [runStack, bind_assoc, bind_ok']

theorem logStack_cons (sem : Sem) (s : Seg) (ss : List Seg) (vs : List Val) :
    logStack sem vs (s :: ss) =
      logStack sem vs [s] >>= fun p => logStack sem p.1 ss >>= fun r => pure (r.1, p.2 ++ r.2) := by
  simp only [logStack, bind_assoc, bind_ok', pure, Except.pure, List.append_nil]

theorem log_fst_code (sem : Sem) (c : Code) : ∀ (e : Env Val), RecSem sem c →
    loopStateful sem Handler.noop e c.eqns = (logCode sem e c).map Prod.fst := by
  induction c with
  | nil => intro e _; rfl
  | plain q rest ih =>
    intro e h
    rw [Code.eqns, loop_cons, logCode, map_bind']
    exact bind_congr fun e' => ih e' h
  | recd q tag nc cv iv body ov rest ihb ihr =>
    rintro e ⟨hm, hs, hb, hr⟩
    -- `RecSem` turns `bind` into a run of the staged callable (`ihb`); both sides normalise to one chain of binds
    simp only [Code.eqns, loop_cons, stepStateful_eq, Handler.override_of_noHandle sem Handler.noop (fun _ => rfl), hm, hs,
      runStack, Seg.enter, Seg.code, Seg.ret, ihb _ hb, ihr _ hr, logCode, map_eq_bind, bind_assoc, bind_ok', wrapOuts,
      if_true, pure, Except.pure]

theorem log_fst_stack (sem : Sem) (segs : List Seg) : ∀ (vs : List Val), RecSemS sem segs →
    runStack sem vs segs = (logStack sem vs segs).map Prod.fst := by
  induction segs with
  | nil => intro vs _; rfl
  | cons s ss ih =>
    intro vs h
    simp only [runStack, logStack, log_fst_code sem _ _ h.1, ih _ h.2, map_eq_bind, bind_assoc, bind_ok', pure,
      Except.pure]

/-- The instrumented evaluation from inside a segment: the rest `c` of its code, its return, then the stack
    (`ttRest` is the same walk on the recorder's side). -/
def whole (sem : Sem) (e : Env Val) (c : Code) (ret : List Atom) (stack : List Seg) :
    Except Err (List Val × List Entry) :=
  logCode sem e c >>= fun p => Env.readAll id p.1 ret >>= fun vs' => logStack sem vs' stack >>= fun r =>
    pure (r.1, p.2 ++ r.2)

def ttRest (sem : Sem) (e : Env Val) (c : Code) (ret : List Atom) (stack : List Seg) :
    Except Err (List Val × Option (Option String × Frame)) :=
  ttCode sem ret stack e c >>= fun o =>
    match o with
    | .hit final tag fr => pure (final, some (tag, fr))
    | .done e' => e'.readAll id ret >>= fun vs' => ttStack sem vs' stack

theorem logStack_enter (sem : Sem) (s : Seg) (ss : List Seg) (vs : List Val) :
    logStack sem vs (s :: ss) = s.enter vs >>= fun e => whole sem e s.code s.ret ss := by
  simp only [logStack, whole]

theorem ttStack_enter (sem : Sem) (s : Seg) (ss : List Seg) (vs : List Val) :
    ttStack sem vs (s :: ss) = s.enter vs >>= fun e => ttRest sem e s.code s.ret ss := by
  simp only [ttStack, ttRest]
  refine bind_congr fun e => bind_congr fun o => ?_
  cases o <;> rfl

theorem whole_nil (sem : Sem) (e : Env Val) (ret : List Atom) (stack : List Seg) :
    whole sem e .nil ret stack = e.readAll id ret >>= fun vs' => logStack sem vs' stack := by
  simp only [whole, logCode, bind_ok', List.nil_append]
  exact bind_congr fun vs' => bind_ok_right _

theorem whole_plain (sem : Sem) (e : Env Val) (q : Eqn) (rest : Code) (ret : List Atom) (stack : List Seg) :
    whole sem e (.plain q rest) ret stack =
      stepStateful sem Handler.noop e q >>= fun e' => whole sem e' rest ret stack := by
  simp only [whole, logCode, bind_assoc]

theorem whole_recd (sem : Sem) (e : Env Val) (q : Eqn) (tag nc cv iv body ov) (rest : Code) (ret : List Atom)
    (stack : List Seg) :
    whole sem e (.recd q tag nc cv iv body ov rest) ret stack =
      e.readAll id q.ins >>= fun vs =>
        logStack sem (vs.drop nc) [.call ⟨vs.take nc, cv, iv, body, ov⟩] >>= fun p =>
          logStack sem p.1 (.kont e q.outs rest ret :: stack) >>= fun r =>
            pure (r.1, ⟨tag, vs.drop nc, p.1⟩ :: (p.2 ++ r.2)) := by
  simp only [whole, logCode, logStack, Seg.enter, Seg.code, Seg.ret, bind_assoc, bind_ok', pure, Except.pure,
    List.append_nil, List.cons_append, List.append_assoc]

theorem ttRest_nil (sem : Sem) (e : Env Val) (ret : List Atom) (stack : List Seg) :
    ttRest sem e .nil ret stack = e.readAll id ret >>= fun vs' => ttStack sem vs' stack := rfl

theorem ttRest_plain (sem : Sem) (e : Env Val) (q : Eqn) (rest : Code) (ret : List Atom) (stack : List Seg) :
    ttRest sem e (.plain q rest) ret stack =
      stepStateful sem Handler.noop e q >>= fun e' => ttRest sem e' rest ret stack := by
  simp only [ttRest, ttCode, bind_assoc]

theorem ttRest_recd (sem : Sem) (e : Env Val) (q : Eqn) (tag nc cv iv body ov) (rest : Code) (ret : List Atom)
    (stack : List Seg) :
    ttRest sem e (.recd q tag nc cv iv body ov rest) ret stack =
      e.readAll id q.ins >>= fun vs =>
        runStack sem (vs.drop nc) [.call ⟨vs.take nc, cv, iv, body, ov⟩] >>= fun r =>
          runStack sem r (.kont e q.outs rest ret :: stack) >>= fun final =>
            pure (final, some (tag, ⟨⟨vs.take nc, cv, iv, body, ov⟩, vs.drop nc, r, .kont e q.outs rest ret :: stack⟩)) := by
  simp only [ttRest, ttCode, bind_assoc]
  refine bind_congr fun vs => ?_
  simp only [runStack_cons sem (.call _) (.kont e q.outs rest ret :: stack), bind_assoc]
  -- the continuation, in rebind mode, runs the callable once more, to the same result
  rw [bind_twice]
  rfl

/-- How one `time_travel` call relates to the instrumented evaluation of the same
    continuation: same error; no call logged ⇒ the final value and `None`; otherwise the final
    value and a frame for the FIRST logged call, whose continuation logs the remaining calls.  `n` counts the
    record points from that call on, the fuel the recorder's loop needs. -/
def Good (sem : Sem) (spec : Except Err (List Val × List Entry))
    (impl : Except Err (List Val × Option (Option String × Frame))) (n : Nat) : Prop :=
  match spec with
  | .error x => impl = .error x
  | .ok (fin, []) => impl = .ok (fin, none)
  | .ok (fin, en :: log) =>
    ∃ fr : Frame, impl = .ok (fin, some (en.tag, fr)) ∧ fr.args = en.args ∧ fr.ret = en.ret ∧
      RecSemS sem fr.cont ∧ nrecS fr.cont + 1 = n ∧ logStack sem fr.args fr.cont = .ok (fin, log)

theorem Good.bind {α} (sem : Sem) (x : Except Err α) {f g n}
    (h : ∀ a, x = .ok a → Good sem (f a) (g a) n) : Good sem (x >>= f) (x >>= g) n := by
  cases x with
  | error e => exact (rfl : Except.error e = _)
  | ok a => exact h a rfl

/-- The inner induction, over the code of one segment, given the claim `ihs` for the rest of the stack. -/
theorem good_code (sem : Sem) (ret : List Atom) (stack : List Seg) (hst : RecSemS sem stack)
    (ihs : ∀ vs, Good sem (logStack sem vs stack) (ttStack sem vs stack) (nrecS stack)) (c : Code) :
    ∀ (e : Env Val), RecSem sem c →
      Good sem (whole sem e c ret stack) (ttRest sem e c ret stack) (c.nrec + nrecS stack) := by
  induction c with
  | nil =>
    intro e _
    rw [whole_nil, ttRest_nil, Code.nrec, Nat.zero_add]
    exact Good.bind sem _ fun vs' _ => ihs vs'
  | plain q rest ih =>
    intro e h
    rw [whole_plain, ttRest_plain]
    exact Good.bind sem _ fun e' _ => ih e' h
  | recd q tag nc cv iv body ov rest _ _ =>
    rintro e ⟨-, -, hb, hr⟩
    rw [whole_recd, ttRest_recd]
    refine Good.bind sem _ fun vs _ => ?_
    have hk : RecSemS sem (.kont e q.outs rest ret :: stack) := ⟨hr, hst⟩
    have hf : RecSemS sem [.call ⟨vs.take nc, cv, iv, body, ov⟩] := ⟨hb, trivial⟩
    simp only [log_fst_stack sem _ _ hf, log_fst_stack sem _ _ hk, map_eq_bind, bind_assoc, bind_ok']
    -- both sides are now: log the callable, log the continuation; the frame's own continuation is the two together
    refine Good.bind sem _ fun p hp => Good.bind sem _ fun r hr' => ?_
    refine ⟨_, rfl, rfl, rfl, ⟨hb, hk⟩, ?_, ?_⟩
    · show body.nrec + (rest.nrec + nrecS stack) + 1 = 1 + body.nrec + rest.nrec + nrecS stack
      rw [Nat.add_assoc (1 + body.nrec), Nat.add_assoc 1, Nat.add_comm 1]
    · rw [Frame.cont, logStack_cons, hp, bind_ok', hr']; rfl

theorem good_stack (sem : Sem) (segs : List Seg) : RecSemS sem segs →
    ∀ vs, Good sem (logStack sem vs segs) (ttStack sem vs segs) (nrecS segs) := by
  induction segs with
  | nil => intro _ vs; exact (rfl : ttStack sem vs [] = _)
  | cons s ss ih =>
    intro h vs
    rw [logStack_enter, ttStack_enter]
    exact Good.bind sem _ fun e _ => good_code sem s.ret ss h.2 (ih h.2) s.code e h.1

/-- What is observable of a recording: final value, per frame (args, local return value),
    jump points. -/
def Debugger.obs (d : Debugger) : List Val × List (List Val × List Val) × List (String × Nat) :=
  (d.final, d.frames.map Frame.obs, d.jumps)

def Entry.obs (en : Entry) : List Val × List Val := (en.args, en.ret)

def Debugger.obsP (d : Debugger) := (d.final, d.frames.map Frame.obs, d.jumps, d.ptr)

theorem recordLoop_none (sem : Sem) (n : Nat) (rv : List Val) (seq : List Frame) (jp : List (String × Nat)) :
    recordLoop sem n rv none seq jp = .ok ⟨rv, seq, jp, 0⟩ := by
  cases n <;> rfl

theorem recordLoop_some (sem : Sem) (n : Nat) (rv : List Val) (tag : Option String) (fr : Frame) (seq : List Frame)
    (jp : List (String × Nat)) :
    recordLoop sem (n + 1) rv (some (tag, fr)) seq jp =
      ttStack sem fr.args fr.cont >>= fun p =>
        recordLoop sem n p.1 p.2 (seq ++ [fr]) (addJump jp tag ((seq ++ [fr]).length - 1)) := rfl

/-- Each round takes the first remaining call off the log and goes on with that frame's continuation, which logs
    the rest (`good_stack`); `nrecS` decreases, so the fuel suffices. -/
theorem record_loop (sem : Sem) (fin : List Val) (log : List Entry) : ∀ (n m : Nat)
    (impl : Except Err (List Val × Option (Option String × Frame))) (seq : List Frame) (jp : List (String × Nat)),
    Good sem (.ok (fin, log)) impl m → m ≤ n →
    (impl >>= fun p => recordLoop sem n p.1 p.2 seq jp).map Debugger.obsP =
      .ok (fin, seq.map Frame.obs ++ log.map Entry.obs, jumpsOf jp seq.length log, 0) := by
  induction log with
  | nil =>
    intro n m impl seq jp hg _
    rw [show impl = .ok (fin, none) from hg, bind_ok', recordLoop_none, List.map_nil, List.append_nil]
    rfl
  | cons en log ih =>
    rintro n m impl seq jp ⟨fr, rfl, ha, hr, hrs, rfl, hcont⟩ hn
    cases n with
    | zero => exact absurd hn (Nat.not_succ_le_zero _)
    | succ n =>
      have hobs : fr.obs = en.obs := Prod.ext ha hr
      rw [bind_ok', recordLoop_some,
        ih n _ _ _ _ (hcont ▸ good_stack sem fr.cont hrs fr.args) (Nat.le_of_succ_le_succ hn)]
      -- the frame appended to `seq` is observed as the head `en` of the log, at index `seq.length`
      rw [List.map_append, List.append_assoc, List.map_singleton, hobs, List.length_append, List.length_singleton,
        Nat.add_sub_cancel]
      rfl

theorem record_obsP (sem : Sem) (segs : List Seg) (args : List Val) (h : RecSemS sem segs) :
    (record sem segs args).map Debugger.obsP =
      (logStack sem args segs).map (fun p => (p.1, p.2.map Entry.obs, jumpsOf [] 0 p.2, 0)) := by
  have hg := good_stack sem segs h args
  cases hl : logStack sem args segs with
  | error x => rw [hl] at hg; rw [record, show ttStack sem args segs = .error x from hg]; rfl
  | ok p => rw [hl] at hg; exact record_loop sem p.1 p.2 _ _ _ [] [] hg (Nat.le_refl _)

theorem record_obs (sem : Sem) (segs : List Seg) (args : List Val) (h : RecSemS sem segs) :
    (record sem segs args).map Debugger.obs =
      (logStack sem args segs).map (fun p => (p.1, p.2.map Entry.obs, jumpsOf [] 0 p.2)) := by
  have := congrArg (Except.map fun o => (o.1, o.2.1, o.2.2.1)) (record_obsP sem segs args h)
  rwa [map_map', map_map'] at this

def Debugger.Inv (d : Debugger) : Prop :=
  d.ptr < d.frames.length ∧ ∀ t i, jget d.jumps t = some i → i < d.frames.length

def Op.isNav : Op → Bool
  | .remix _ => false
  | _ => true

/-- A navigation operation only moves the pointer, and only to the index of a frame. -/
theorem Debugger.step_nav {sem : Sem} {d d' : Debugger} {op : Op} (hop : op.isNav = true) (h : d.Inv)
    (hd : d.step sem op = .ok d') : ∃ i, i < d.frames.length ∧ d' = { d with ptr := i } := by
  cases op with
  | remix a => cases hop
  | fwd =>
    cases hd
    by_cases hc : d.ptr + 1 ≥ d.frames.length
    · exact ⟨d.ptr, h.1, if_pos hc⟩
    · exact ⟨d.ptr + 1, Nat.lt_of_not_le hc, if_neg hc⟩
  | bwd =>
    cases hd
    by_cases h0 : d.ptr = 0
    · exact ⟨d.ptr, h.1, if_pos h0⟩
    · by_cases hc : d.ptr - 1 ≥ d.frames.length
      · exact ⟨d.ptr, h.1, (if_neg h0).trans (if_pos hc)⟩
      · exact ⟨d.ptr - 1, Nat.lt_of_not_le hc, (if_neg h0).trans (if_neg hc)⟩
  | jump t =>
    replace hd : d.jump t = .ok d' := hd
    unfold Debugger.jump at hd
    cases hj : jget d.jumps t with
    | none => rw [hj] at hd; cases hd
    | some i => rw [hj] at hd; cases hd; exact ⟨i, h.2 t i hj, rfl⟩

/-- Hence so does a whole session of navigation operations (a failed jump leaves the debugger as it was). -/
theorem Debugger.run_nav {sem : Sem} (ops : List Op) {d : Debugger} (h : d.Inv) (hall : ∀ op ∈ ops, op.isNav = true) :
    ∃ i, i < d.frames.length ∧ d.run sem ops = { d with ptr := i } := by
  induction ops generalizing d with
  | nil => exact ⟨d.ptr, h.1, rfl⟩
  | cons op ops ih =>
    have hrest : ∀ o ∈ ops, o.isNav = true := fun o ho => hall o (List.mem_cons_of_mem _ ho)
    simp only [Debugger.run]
    cases hs : d.step sem op with
    | error x => exact ih h hrest
    | ok d' =>
      obtain ⟨i, hi, rfl⟩ := Debugger.step_nav (hall op List.mem_cons_self) h hs
      exact ih (d := { d with ptr := i }) ⟨hi, h.2⟩ hrest

theorem jget_jset (d : List (String × Nat)) (k t : String) (v : Nat) :
    jget (jset d k v) t = if k = t then some v else jget d t := by
  fun_induction jset d k v with
  | case1 => rfl
  | case2 v' rest =>
    rw [jget, jget]
    by_cases ht : k = t
    · rw [if_pos ht, if_pos ht]
    · rw [if_neg ht, if_neg ht, if_neg ht]
  | case3 k' v' rest hk ih =>
    rw [jget, jget, ih]
    by_cases ht : k' = t
    · rw [if_pos ht, if_pos ht, if_neg (ht ▸ Ne.symm hk)]
    · rw [if_neg ht, if_neg ht]

theorem jget_addJump {jp : List (String × Nat)} {tag : Option String} {idx : Nat} {t : String} {i : Nat}
    (h : jget (addJump jp tag idx) t = some i) : i = idx ∨ jget jp t = some i := by
  cases tag with
  | none => exact .inr h
  | some s =>
    replace h : jget (if s = "" then jp else jset jp s idx) t = some i := h
    by_cases hs : s = ""
    · rw [if_pos hs] at h; exact .inr h
    · rw [if_neg hs, jget_jset] at h
      by_cases hst : s = t
      · rw [if_pos hst] at h; exact .inl (Option.some.inj h).symm
      · rw [if_neg hst] at h; exact .inr h

theorem jumpsOf_range : ∀ (log : List Entry) (jp : List (String × Nat)) (base : Nat),
    (∀ t i, jget jp t = some i → i < base) →
    ∀ t i, jget (jumpsOf jp base log) t = some i → i < base + log.length := by
  intro log
  induction log with
  | nil => intro jp base h; exact h
  | cons en rest ih =>
    intro jp base h t i hj
    have := ih (addJump jp en.tag base) (base + 1)
      (fun t i ht => (jget_addJump ht).elim (fun e => e ▸ Nat.lt_succ_self base) fun h' => Nat.lt_succ_of_lt (h t i h')) t i hj
    rwa [Nat.add_assoc, Nat.add_comm 1] at this

end GenjaxVerif.TT

/-! ## Example data for the non-vacuity examples of `Props/C31.lean` -/
namespace GenjaxVerif.TT.Ex
open GenjaxVerif.IR GenjaxVerif.TT

def sc (i : Int) : Val := ⟨.i32, [], [i]⟩

def exAdd (vs : List Val) : Except Err (PrimOut Val) :=
  match vs with
  | [a, b] => .ok (.one (sc (a.data.headD 0 + b.data.headD 0)))
  | _ => .error .arity

/-- `add` adds scalars; a `record_p` equation whose staged callable has no equations returns its
    single argument, any other `record_p` equation doubles its single argument. -/
def exSem : Sem := fun p ps vs =>
  if p = "add" then exAdd vs
  else if p = "record_p" then
    match ps.find "impl", vs with
    | some (.closed (.mk _ _ [] _) _), [a] => .ok (.many [a])
    | some (.closed (.mk _ _ (_ :: _) _) _), [a] => .ok (.many [sc (a.data.headD 0 + a.data.headD 0)])
    | _, _ => .error .arity
  else .error (.prim "unsupported")

/-- `f(x) = x + x`. -/
def exSrc : Fn := ⟨[], [], [0], .plain (.mk "add" false [] [.var 0, .var 0] [.var 1]) .nil, [.var 1]⟩

/-- With fuel: `record_p` evaluates its staged callable (`initialStyleImpl`). -/
def exSemN : Nat → Sem
  | 0 => fun p _ vs => if p = "add" then exAdd vs else .error (.prim "fuel")
  | n + 1 => fun p ps vs =>
    if p = "add" then exAdd vs
    else if p = "record_p" then initialStyleImpl (exSemN n) ps vs
    else .error (.prim "unsupported")

def addEq (a b o : Nat) : Eqn := .mk "add" false [] [.var a, .var b] [.var o]

/-- `inner(b) = b + b` recorded as "in"; `outer(a) = inner(a) + a` recorded as "out";
    `f(x) = tag(outer(x) + x, "out")` — nested record points and a repeated tag. -/
def innerBody : Code := .plain (addEq 0 0 1) .nil
def innerJ : Jaxpr := .mk [] [0] innerBody.eqns [.var 1]
def qInner : Eqn := .mk "record_p" true (recParams innerJ 0) [.var 0] [.var 1]
def outerBody : Code := .recd qInner (some "in") 0 [] [0] innerBody [.var 1] (.plain (addEq 1 0 2) .nil)
def outerJ : Jaxpr := .mk [] [0] outerBody.eqns [.var 2]
def qOuter : Eqn := .mk "record_p" true (recParams outerJ 0) [.var 0] [.var 1]
def qTag : Eqn := .mk "record_p" true (recParams (idFn 1).jaxpr 0) [.var 2] [.var 3]
def exNested : Fn :=
  ⟨[], [], [0],
   .recd qOuter (some "out") 0 [] [0] outerBody [.var 2]
     (.plain (addEq 1 0 2) (.recd qTag (some "out") 0 [] [0] .nil [.var 0] .nil)),
   [.var 3]⟩

end GenjaxVerif.TT.Ex
