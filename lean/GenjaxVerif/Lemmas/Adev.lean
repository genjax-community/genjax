import GenjaxVerif.Model.Adev
import GenjaxVerif.Lemmas.FinProbInfer
import Mathlib.Tactic.Ring
/-!
Lemmas for the ADEV model.  Every REINFORCE statement rests on the score-function identity `expect_bern_score`.
`Except.map f a = b` serves as a relation between two evaluations, closed under `>>=`: at `f = (·.p)` dual evaluation
projects to value evaluation (`evalK_proj`), at `f = scale τ` the output tangent is linear in the input tangent
(`evalK_scale`), at `f = (· − c)` a site's value shifts with its continuation (`primVal_shift`, what a baseline needs).
-/
namespace GenjaxVerif.Adev

namespace Dual
@[simp] theorem add_p (a b : Dual) : (a + b).p = a.p + b.p := rfl
@[simp] theorem add_t (a b : Dual) : (a + b).t = a.t + b.t := rfl
@[simp] theorem sub_p (a b : Dual) : (a - b).p = a.p - b.p := rfl
@[simp] theorem sub_t (a b : Dual) : (a - b).t = a.t - b.t := rfl
@[simp] theorem mul_p (a b : Dual) : (a * b).p = a.p * b.p := rfl
@[simp] theorem mul_t (a b : Dual) : (a * b).t = a.t * b.p + a.p * b.t := rfl
@[simp] theorem neg_p (a : Dual) : (-a).p = -a.p := rfl
@[simp] theorem neg_t (a : Dual) : (-a).t = -a.t := rfl
@[simp] theorem div_p (a b : Dual) : (a / b).p = a.p / b.p := rfl
@[simp] theorem div_t (a b : Dual) : (a / b).t = a.t / b.p - a.p * b.t / (b.p * b.p) := rfl
@[simp] theorem const_p (c : Rat) : (const c).p = c := rfl
@[simp] theorem const_t (c : Rat) : (const c).t = 0 := rfl

theorem ext' {a b : Dual} (hp : a.p = b.p) (ht : a.t = b.t) : a = b := by
  cases a; cases b; cases hp; cases ht; rfl
end Dual

theorem expect_nil {α : Type} (f : α → Rat) : expect ([] : List (α × Rat)) f = 0 := rfl

theorem expect_cons {α : Type} (x : α) (w : Rat) (d : List (α × Rat)) (f : α → Rat) :
    expect ((x, w) :: d) f = w * f x + expect d f := List.sum_cons

@[simp] theorem expect_bern (p : Rat) (f : Bool → Rat) :
    expect (bern p) f = p * f true + (1 - p) * f false := by
  rw [bern, expect_cons, expect_cons, expect_nil, Rat.add_zero]

/-! `expect` is `FinProbInfer.expect` under another name. -/

theorem expect_add {α : Type} (d : List (α × Rat)) (f g : α → Rat) :
    expect d (fun x => f x + g x) = expect d f + expect d g :=
  FinProbInfer.expect_add d f g

theorem expect_smul {α : Type} (d : List (α × Rat)) (c : Rat) (f : α → Rat) :
    expect d (fun x => c * f x) = c * expect d f :=
  FinProbInfer.expect_mul_left d c f

theorem expect_const {α : Type} (d : List (α × Rat)) (c : Rat) :
    expect d (fun _ => c) = c * expect d (fun _ => 1) := by
  rw [← expect_smul]; simp only [Rat.mul_one]

theorem expect_bern_const (p c : Rat) : expect (bern p) (fun _ => c) = c := by
  rw [expect_bern, ← Rat.add_mul, Rat.add_comm, Rat.sub_add_cancel, Rat.one_mul]

theorem flipEnumJvp_p (p : Dual) (k : Bool → Dual) :
    (flipEnumJvp p k).p = expect (bern p.p) (fun x => (k x).p) := by
  rw [expect_bern]; rfl

theorem flipEnumJvp_t (p : Dual) (k : Bool → Dual) :
    (flipEnumJvp p k).t = p.t * ((k true).p - (k false).p) + expect (bern p.p) (fun x => (k x).t) := by
  simp only [flipEnumJvp, expect_bern, Dual.add_t, Dual.mul_t, Dual.sub_t, Dual.sub_p, Dual.const_t, Dual.const_p]
  ring

/-- The score-function identity `E_x[f x · ∂log q(x)] = ∂E_x[f x]`; the only place where `0 < p < 1` is used. -/
theorem expect_bern_score (p : Dual) (f : Bool → Rat) (h0 : 0 < p.p) (h1 : p.p < 1) :
    expect (bern p.p) (fun x => f x * flipLpTangent x p) = p.t * (f true - f false) := by
  have hp : p.p ≠ 0 := Rat.ne_of_gt h0
  have hq : 1 - p.p ≠ 0 := Rat.ne_of_gt ((Rat.lt_iff_sub_pos _ _).mp h1)
  -- each weight cancels the denominator of its score
  have cancel {q : Rat} (h : q ≠ 0) (a b : Rat) : q * (a * (b / q)) = a * b := by
    rw [Rat.mul_comm, Rat.mul_assoc, Rat.div_mul_cancel h]
  simp only [expect_bern, flipLpTangent, if_true, Bool.false_eq_true, if_false]
  rw [cancel hp, Rat.mul_neg, Rat.mul_neg, cancel hq]
  ring

theorem bind_ok {α β : Type} (a : α) (f : α → Except Err β) : (Except.ok a >>= f) = f a := rfl
theorem bind_err {α β : Type} (e : Err) (f : α → Except Err β) : (Except.error e >>= f) = .error e := rfl

section
variable {α β γ δ : Type} {g : γ → δ}

theorem map_bind {f : α → β} {a : Except Err α} {b : Except Err β}
    {F : α → Except Err γ} {G : β → Except Err δ}
    (h : a.map f = b) (hF : ∀ x, (F x).map g = G (f x)) : (a >>= F).map g = b >>= G := by
  subst h
  cases a with
  | error e => rfl
  | ok x => exact hF x

theorem map_optE_bind (e : Err) (o : Option α) {F : α → Except Err γ} {G : α → Except Err δ}
    (hF : ∀ x, (F x).map g = G x) : (optE e o >>= F).map g = optE e o >>= G := by
  cases o with
  | none => rfl
  | some x => exact hF x

theorem map_optE (e : Err) (o : Option γ) : (optE e o).map g = optE e (o.map g) := by
  cases o <;> rfl

theorem map_pure {x : γ} {y : δ} (h : g x = y) : (pure x : Except Err γ).map g = pure y :=
  congrArg Except.ok h

end

def Env.primal (e : Env) : VEnv := ⟨e.th.p, e.bs, e.rs.map (·.p)⟩

def Val.primal : Val → VVal
  | .b x => .b x
  | .r x => .r x.p
  | .none => .none

theorem Env.primal_push (e : Env) (v : Val) : (e.push v).primal = e.primal.push v.primal := by
  cases v with
  | b x => rfl
  | r x => exact congrArg (VEnv.mk e.th.p e.bs) List.map_append
  | none => rfl

def Proj (a : Except Err Dual) (b : Except Err Rat) : Prop := a.map (·.p) = b

theorem Proj.ok {d : Dual} : Proj (.ok d) (.ok d.p) := rfl
theorem Proj.err {e : Err} : Proj (.error e) (.error e) := rfl

theorem evalExpr_proj (ln : Rat → Option Rat) (env : Env) (e : Expr) :
    Proj (evalExpr ln env e) (valExpr ln env.primal e) := by
  induction e with
  | c r => rfl
  | th => rfl
  | rv i =>
    exact (map_optE _ _).trans (congrArg (optE _) List.getElem?_map.symm)
  | add a b iha ihb => exact map_bind iha fun _ => map_bind ihb fun _ => rfl
  | sub a b iha ihb => exact map_bind iha fun _ => map_bind ihb fun _ => rfl
  | mul a b iha ihb => exact map_bind iha fun _ => map_bind ihb fun _ => rfl
  | div a b iha ihb => exact map_bind iha fun _ => map_bind ihb fun _ => rfl
  | neg a iha => exact map_bind iha fun _ => rfl
  | log a iha =>
    refine map_bind iha fun d => ?_
    cases ln d.p <;> rfl
  | ite i a b iha ihb =>
    exact map_optE_bind _ env.bs[i]? fun c => map_bind iha fun _ => map_bind ihb fun _ => by cases c <;> rfl

theorem evalArgs_proj (ln : Rat → Option Rat) (env : Env) (es : List Expr) :
    (evalArgs ln env es).map (List.map (·.p)) = valArgs ln env.primal es := by
  induction es with
  | nil => rfl
  | cons e es ih => exact map_bind (evalExpr_proj ln env e) fun _ => map_bind ih fun _ => rfl

/-! A `match` on a site's argument list inside a tactic proof is slow to check; these serve `cases … using`. -/

theorem argCases₁ {α : Type} {motive : List α → Prop} (nil : motive []) (one : ∀ a, motive [a])
    (more : ∀ a b l, motive (a :: b :: l)) : ∀ l, motive l
  | [] => nil
  | [a] => one a
  | a :: b :: l => more a b l

theorem argCases₂ {α : Type} {motive : List α → Prop} (nil : motive []) (one : ∀ a, motive [a])
    (two : ∀ a b, motive [a, b]) (more : ∀ a b c l, motive (a :: b :: c :: l)) : ∀ l, motive l
  | [] => nil
  | [a] => one a
  | [a, b] => two a b
  | a :: b :: c :: l => more a b c l

/-- Holds because every site's value is an average, with total weight 1, of continuation values. -/
theorem primVal_shift (nz : Noise) (prim : Prim) (args : List Rat) (key : Key)
    (kv : VVal → Key → Except Err Rat) (c : Rat) :
    (primVal nz prim args key kv).map (· - c)
      = primVal nz prim args key (fun v k' => do pure ((← kv v k') - c)) := by
  -- `x.map (· - c)` unfolds to `do pure ((← x) - c)`: hence `rfl` for the continuation's part
  induction prim generalizing args with
  | baseline inner ih =>
    cases args with
    | nil => rfl
    | cons b args => exact ih args
  | flipEnum =>
    cases args using argCases₁ with
    | nil => rfl
    | one p =>
      refine map_bind rfl fun a => map_bind rfl fun b => map_pure ?_
      show p * a + (1 - p) * b - c = p * (a - c) + (1 - p) * (b - c)
      ring
    | more _ _ _ => rfl
  | flipReinforce =>
    cases args using argCases₁ with
    | nil => rfl
    | one p => exact map_optE_bind _ _ fun _ => rfl
    | more _ _ _ => rfl
  | normalReparam =>
    cases args using argCases₂ with
    | nil => rfl
    | one _ => rfl
    | two mu sigma => exact map_optE_bind _ _ fun _ => rfl
    | more _ _ _ _ => rfl
  | normalReinforce =>
    cases args using argCases₂ with
    | nil => rfl
    | one _ => rfl
    | two mu sigma => exact map_optE_bind _ _ fun _ => rfl
    | more _ _ _ _ => rfl
  | flipMvd => rfl
  | flipEnumParallel => rfl
  | categoricalEnumParallel => rfl
  | uniform => rfl

theorem primJvp_proj (nz : Noise) (prim : Prim) (ds : List Dual) (key : Key)
    (kv : Val → Key → Except Err Dual) (kv' : VVal → Key → Except Err Rat)
    (H : ∀ v k', Proj (kv v k') (kv' v.primal k')) :
    Proj (primJvp nz prim ds key kv) (primVal nz prim (ds.map (·.p)) key kv') := by
  induction prim generalizing ds kv kv' with
  | baseline inner ih =>
    cases ds with
    | nil => rfl
    | cons b args =>
      -- the estimator runs `inner` against `kv − b` and adds `b` back; the value ignores the baseline
      have h := ih args (fun v k' => do pure ((← kv v k') - b)) (fun v k' => do pure ((← kv' v k') - b.p))
        fun v k' => map_bind (H v k') fun _ => rfl
      rw [← primVal_shift] at h
      refine (map_bind (G := fun r => pure (r + b.p)) h fun _ => rfl).trans ?_
      show _ = primVal nz inner (args.map (·.p)) key kv'
      cases primVal nz inner (args.map (·.p)) key kv' with
      | error e => rfl
      | ok r => exact congrArg Except.ok Rat.sub_add_cancel
  | flipEnum =>
    cases ds using argCases₁ with
    | nil => rfl
    | one p => exact map_bind (H (.b true) key) fun _ => map_bind (H (.b false) key) fun _ => rfl
    | more _ _ _ => rfl
  | flipReinforce =>
    cases ds using argCases₁ with
    | nil => rfl
    | one p =>
      refine map_optE_bind _ _ fun u => ?_
      exact (map_bind (H (.b (decide (u < p.p))) (key ++ [0])) (G := pure) fun _ => rfl).trans (bind_pure _)
    | more _ _ _ => rfl
  | normalReparam =>
    cases ds using argCases₂ with
    | nil => rfl
    | one _ => rfl
    | two mu sigma => exact map_optE_bind _ _ fun e => H (.r (normalReparamSample mu sigma e)) key
    | more _ _ _ _ => rfl
  | normalReinforce =>
    cases ds using argCases₂ with
    | nil => rfl
    | one _ => rfl
    | two mu sigma =>
      refine map_optE_bind _ _ fun e => ?_
      exact (map_bind (H (.r (Dual.const (e * sigma.p + mu.p))) (key ++ [0])) (G := pure) fun _ => rfl).trans
        (bind_pure _)
    | more _ _ _ _ => rfl
  | flipMvd => rfl
  | flipEnumParallel => rfl
  | categoricalEnumParallel => rfl
  | uniform => rfl

theorem siteFree_branches (prog : Prog) (h : prog.siteFree = true) : prog.branchesSiteFree = true := by
  induction prog with
  | ret e => rfl
  | sample prim args k ih => cases h
  | addCost e k ih => cases h
  | cond i pt pf k iht ihf ihk =>
    simp only [Prog.siteFree, Bool.and_eq_true] at h
    simp only [Prog.branchesSiteFree, Bool.and_eq_true]
    exact ⟨h.1, ihk h.2⟩

/-- For any continuation `K` and anything `G` bound after it: the generality the induction needs. -/
theorem evalVal_siteFree (ln : Rat → Option Rat) (nz : Noise) (prog : Prog) (h : prog.siteFree = true)
    (env : VEnv) (key : Key) (K G : Rat → Except Err Rat) :
    evalVal ln nz prog env key (fun r => K r >>= G) = evalVal ln nz prog env key K >>= G := by
  induction prog generalizing env K with
  | ret e => exact (bind_assoc _ K G).symm
  | sample prim args k ih => cases h
  | addCost e k ih => cases h
  | cond i pt pf k iht ihf ihk =>
    simp only [Prog.siteFree, Bool.and_eq_true] at h
    simp only [evalVal, ihk h.2, iht h.1.1, ihf h.1.2, bind_assoc]
    congr 1
    funext c
    cases c <;> rfl

theorem evalK_proj (ln : Rat → Option Rat) (nz : Noise) (prog : Prog) (hb : prog.branchesSiteFree = true)
    (env : Env) (key : Key) (K : Dual → Except Err Dual) (K' : Rat → Except Err Rat)
    (H : ∀ d, Proj (K d) (K' d.p)) :
    Proj (evalK ln nz prog env key K) (evalVal ln nz prog env.primal key K') := by
  induction prog generalizing env key K K' with
  | ret e => exact map_bind (evalExpr_proj ln env e) H
  | sample prim args k ih =>
    refine map_bind (evalArgs_proj ln env args) fun ds => primJvp_proj nz prim ds key _ _ fun v k' => ?_
    rw [← Env.primal_push]
    exact ih hb (env.push v) k' K K' H
  | addCost e k ih =>
    exact map_bind (evalExpr_proj ln env e) fun _ => map_bind (ih hb env key K K' H) fun _ => rfl
  | cond i pt pf k iht ihf ihk =>
    simp only [Prog.branchesSiteFree, Bool.and_eq_true] at hb
    obtain ⟨⟨hpt, hpf⟩, hk⟩ := hb
    refine map_optE_bind _ env.bs[i]? fun c => ?_
    -- the code runs the branch to a dual `d` and then the rest; so does the value, the branch being site-free
    let G : Rat → Except Err Rat := fun r => evalVal ln nz k { env.primal with rs := env.primal.rs ++ [r] } key K'
    have HK : ∀ d, Proj (evalK ln nz k (env.pushR d) key K) (G d.p) := fun d => by
      show Proj _ (evalVal ln nz k (env.primal.push (Val.r d).primal) key K')
      rw [← Env.primal_push]
      exact ihk hk (env.pushR d) key K K' H
    cases c
    · exact (map_bind (G := G) (ihf (siteFree_branches pf hpf) env key pure pure fun _ => rfl) HK).trans
        (evalVal_siteFree ln nz pf hpf _ key pure G).symm
    · exact (map_bind (G := G) (iht (siteFree_branches pt hpt) env key pure pure fun _ => rfl) HK).trans
        (evalVal_siteFree ln nz pt hpt _ key pure G).symm

def scale (τ : Rat) (d : Dual) : Dual := ⟨d.p, τ * d.t⟩

@[simp] theorem scale_p (τ : Rat) (d : Dual) : (scale τ d).p = d.p := rfl
@[simp] theorem scale_t (τ : Rat) (d : Dual) : (scale τ d).t = τ * d.t := rfl

theorem scale_add (τ : Rat) (a b : Dual) : scale τ (a + b) = scale τ a + scale τ b :=
  Dual.ext' rfl (Rat.mul_add τ a.t b.t)
theorem scale_sub (τ : Rat) (a b : Dual) : scale τ (a - b) = scale τ a - scale τ b :=
  Dual.ext' rfl (mul_sub τ a.t b.t)
theorem scale_neg (τ : Rat) (a : Dual) : scale τ (-a) = -scale τ a :=
  Dual.ext' rfl (Rat.mul_neg τ a.t)
theorem scale_const (τ c : Rat) : scale τ (Dual.const c) = Dual.const c :=
  Dual.ext' rfl (Rat.mul_zero τ)
theorem scale_mul (τ : Rat) (a b : Dual) : scale τ (a * b) = scale τ a * scale τ b :=
  Dual.ext' rfl (by simp only [scale_t, scale_p, Dual.mul_t]; ring)
theorem scale_div (τ : Rat) (a b : Dual) : scale τ (a / b) = scale τ a / scale τ b :=
  Dual.ext' rfl (by simp only [scale_t, scale_p, Dual.div_t]; ring)

theorem scale_reinforceCombine (τ : Rat) (out : Dual) (l : Rat) :
    scale τ (reinforceCombine out l) = reinforceCombine (scale τ out) (τ * l) :=
  Dual.ext' rfl (by simp only [scale_t, scale_p, reinforceCombine]; ring)

theorem flipLpTangent_scale (τ : Rat) (x : Bool) (p : Dual) :
    flipLpTangent x (scale τ p) = τ * flipLpTangent x p := by
  cases x
  · show -(τ * p.t / (1 - p.p)) = τ * -(p.t / (1 - p.p))
    rw [mul_neg, mul_div_assoc]
  · exact mul_div_assoc τ p.t p.p

theorem normalLpTangent_scale (τ x : Rat) (mu sigma : Dual) :
    normalLpTangent x (scale τ mu) (scale τ sigma) = τ * normalLpTangent x mu sigma := by
  -- the standardised residual scales like everything else
  have hz : (Dual.const x - scale τ mu) / scale τ sigma = scale τ ((Dual.const x - mu) / sigma) := by
    rw [scale_div, scale_sub, scale_const]
  rw [normalLpTangent, normalLpTangent, hz]
  simp only [scale_p, scale_t]
  ring

def Env.scale (τ : Rat) (e : Env) : Env := ⟨GenjaxVerif.Adev.scale τ e.th, e.bs, e.rs.map (GenjaxVerif.Adev.scale τ)⟩

def Val.scale (τ : Rat) : Val → Val
  | .b x => .b x
  | .r x => .r (GenjaxVerif.Adev.scale τ x)
  | .none => .none

theorem Env.scale_push (τ : Rat) (e : Env) (v : Val) : (e.push v).scale τ = (e.scale τ).push (v.scale τ) := by
  cases v with
  | b x => rfl
  | r x => exact congrArg (Env.mk (GenjaxVerif.Adev.scale τ e.th) e.bs) List.map_append
  | none => rfl

theorem evalExpr_scale (ln : Rat → Option Rat) (τ : Rat) (env : Env) (e : Expr) :
    (evalExpr ln env e).map (scale τ) = evalExpr ln (env.scale τ) e := by
  induction e with
  | c r => exact map_pure (scale_const τ r)
  | th => rfl
  | rv i =>
    exact (map_optE _ _).trans (congrArg (optE _) List.getElem?_map.symm)
  | add a b iha ihb => exact map_bind iha fun d => map_bind ihb fun d' => map_pure (scale_add τ d d')
  | sub a b iha ihb => exact map_bind iha fun d => map_bind ihb fun d' => map_pure (scale_sub τ d d')
  | mul a b iha ihb => exact map_bind iha fun d => map_bind ihb fun d' => map_pure (scale_mul τ d d')
  | div a b iha ihb => exact map_bind iha fun d => map_bind ihb fun d' => map_pure (scale_div τ d d')
  | neg a iha => exact map_bind iha fun d => map_pure (scale_neg τ d)
  | log a iha =>
    exact map_bind iha fun d => map_optE_bind _ (ln d.p) fun _ =>
      map_pure (Dual.ext' rfl (mul_div_assoc τ d.t d.p).symm)
  | ite i a b iha ihb =>
    exact map_optE_bind _ env.bs[i]? fun c => map_bind iha fun _ => map_bind ihb fun _ => by cases c <;> rfl

theorem evalArgs_scale (ln : Rat → Option Rat) (τ : Rat) (env : Env) (es : List Expr) :
    (evalArgs ln env es).map (List.map (scale τ)) = evalArgs ln (env.scale τ) es := by
  induction es with
  | nil => rfl
  | cons e es ih => exact map_bind (evalExpr_scale ln τ env e) fun _ => map_bind ih fun _ => rfl

theorem primJvp_scale (nz : Noise) (τ : Rat) (prim : Prim) (ds : List Dual) (key : Key)
    (kv kv' : Val → Key → Except Err Dual) (H : ∀ v k', (kv v k').map (scale τ) = kv' (v.scale τ) k') :
    (primJvp nz prim ds key kv).map (scale τ) = primJvp nz prim (ds.map (scale τ)) key kv' := by
  induction prim generalizing ds kv kv' with
  | baseline inner ih =>
    cases ds with
    | nil => rfl
    | cons b args =>
      exact map_bind (ih args _ _ fun v k' => map_bind (H v k') fun d => map_pure (scale_sub τ d b))
        fun l => map_pure (scale_add τ l b)
  | flipEnum =>
    cases ds using argCases₁ with
    | nil => rfl
    | one p =>
      refine map_bind (H (.b true) key) fun a => map_bind (H (.b false) key) fun b => map_pure ?_
      simp only [flipEnumJvp, scale_add, scale_mul, scale_sub, scale_const]
      rfl
    | more _ _ _ => rfl
  | flipReinforce =>
    cases ds using argCases₁ with
    | nil => rfl
    | one p =>
      refine map_optE_bind _ _ fun u => map_bind (H (.b _) (key ++ [0])) fun d => map_pure ?_
      rw [flipReinforceJvp, flipReinforceJvp, flipLpTangent_scale]
      exact scale_reinforceCombine τ d _
    | more _ _ _ => rfl
  | normalReparam =>
    cases ds using argCases₂ with
    | nil => rfl
    | one _ => rfl
    | two mu sigma =>
      refine map_optE_bind _ _ fun e => ?_
      have h := H (.r (normalReparamSample mu sigma e)) key
      rwa [Val.scale, normalReparamSample, scale_add, scale_mul, scale_const] at h
    | more _ _ _ _ => rfl
  | normalReinforce =>
    cases ds using argCases₂ with
    | nil => rfl
    | one _ => rfl
    | two mu sigma =>
      refine map_optE_bind _ _ fun e => ?_
      have h := H (.r (Dual.const (e * sigma.p + mu.p))) (key ++ [0])
      rw [Val.scale, scale_const] at h
      refine map_bind h fun d => map_pure ?_
      rw [normalReinforceJvp, normalReinforceJvp, normalLpTangent_scale]
      exact scale_reinforceCombine τ d _
    | more _ _ _ _ => rfl
  | flipMvd => rfl
  | flipEnumParallel => rfl
  | categoricalEnumParallel => rfl
  | uniform => rfl

theorem evalK_scale (ln : Rat → Option Rat) (nz : Noise) (τ : Rat) (prog : Prog)
    (env : Env) (key : Key) (K K' : Dual → Except Err Dual) (H : ∀ d, (K d).map (scale τ) = K' (scale τ d)) :
    (evalK ln nz prog env key K).map (scale τ) = evalK ln nz prog (env.scale τ) key K' := by
  induction prog generalizing env key K K' with
  | ret e => exact map_bind (evalExpr_scale ln τ env e) H
  | sample prim args k ih =>
    refine map_bind (evalArgs_scale ln τ env args) fun ds => primJvp_scale nz τ prim ds key _ _ fun v k' => ?_
    rw [← Env.scale_push]
    exact ih (env.push v) k' K K' H
  | addCost e k ih =>
    exact map_bind (evalExpr_scale ln τ env e) fun w => map_bind (ih env key K K' H) fun l =>
      map_pure (scale_add τ w l)
  | cond i pt pf k iht ihf ihk =>
    refine map_optE_bind _ env.bs[i]? fun c => ?_
    have HK : ∀ d, (evalK ln nz k (env.pushR d) key K).map (scale τ)
        = evalK ln nz k ((env.scale τ).pushR (scale τ d)) key K' := fun d => by
      show _ = evalK ln nz k ((env.scale τ).push ((Val.r d).scale τ)) key K'
      rw [← Env.scale_push]
      exact ihk (env.pushR d) key K K' H
    cases c
    · exact map_bind (ihf env key pure pure fun _ => rfl) HK
    · exact map_bind (iht env key pure pure fun _ => rfl) HK

/-- The dual of `log q` the interpreter computes when `q = ⟨q, q'⟩` and `ln q = l`:
    `⟨l, q'/q⟩` (`jax.lax.log_p`'s JVP). -/
def logDual (q : Dual) (l : Rat) : Dual := ⟨l, q.t / q.p⟩

/-- `−ELBO` for a Bernoulli(p) guide: `−Σ_x q(x) (A x − ln q(x))`, with `A x = log p(x, obs)`,
    `L1 = ln p`, `L0 = ln (1 − p)`. -/
def negElboFlip (p AT AF L1 L0 : Rat) : Rat := -(p * (AT - L1) + (1 - p) * (AF - L0))

/-- Its θ-derivative, by the product rule and `d ln q = q'/q` (the score terms
    `p·(p'/p) + (1−p)·(−p'/(1−p))` cancel). -/
def negElboFlipGrad (p p' AT AF AT' AF' L1 L0 : Rat) : Rat :=
  -(p' * ((AT - L1) - (AF - L0)) + p * AT' + (1 - p) * AF')

/-- `−E_q[log p(x, obs)]` (what is left of the ELBO when the guide's log density is dropped). -/
def negExpLogp (p AT AF : Rat) : Rat := -(p * AT + (1 - p) * AF)
def negExpLogpGrad (p p' AT AF AT' AF' : Rat) : Rat := -(p' * (AT - AF) + p * AT' + (1 - p) * AF')

/-- The dual `tfd.Normal(m, s).log_prob(x)` evaluates to, given `ln s.p = l`
    (the value of `normalLogpdfExpr c x m s`). -/
def normalLpDual (c : Rat) (x m s : Dual) (l : Rat) : Dual :=
  Dual.const (-1/2) * (((x - m) / s) * ((x - m) / s)) - (Dual.const c + logDual s l)

theorem primKeys_shape (prim : Prim) (h : prim.splitsKey = true) (key : Key) :
    primKeys prim key = ([key ++ [1]], key ++ [0]) ∨ primKeys prim key = ([], key) := by
  induction prim with
  | baseline inner ih => exact ih h
  | flipReinforce => left; rfl
  | normalReinforce => left; rfl
  | flipEnum => right; rfl
  | flipMvd => cases h
  | flipEnumParallel => cases h
  | categoricalEnumParallel => cases h
  | uniform => cases h
  | normalReparam => cases h

theorem siteKeys_prefix (prog : Prog) (h : prog.keySafe = true) :
    ∀ key x, x ∈ siteKeys prog key → ∃ s, x = key ++ s ∧ s ≠ [] := by
  induction prog with
  | ret e => intro key x hx; cases hx
  | sample prim args k ih =>
    intro key x hx
    simp only [Prog.keySafe, Bool.and_eq_true] at h
    simp only [siteKeys, List.mem_append] at hx
    rcases primKeys_shape prim h.1 key with hs | hs
    · rw [hs] at hx
      rcases hx with hx | hx
      · exact ⟨[1], List.mem_singleton.mp hx, List.cons_ne_nil 1 []⟩
      · obtain ⟨s, hs', _⟩ := ih h.2 (key ++ [0]) x hx
        exact ⟨0 :: s, hs'.trans (List.append_assoc key [0] s), List.cons_ne_nil 0 s⟩
    · rw [hs] at hx
      rcases hx with hx | hx
      · cases hx
      · exact ih h.2 key x hx
  | addCost e k ih => intro key x hx; exact ih h key x hx
  | cond i pt pf k _ _ _ => cases h

/-- Neither of two keys read is a prefix of the other: whatever the two draws derive from their keys stays apart. -/
theorem siteKeys_prefixFree (prog : Prog) (h : prog.keySafe = true) :
    ∀ key, (siteKeys prog key).Pairwise fun a b => ¬ a <+: b ∧ ¬ b <+: a := by
  induction prog with
  | ret e => intro key; exact List.Pairwise.nil
  | sample prim args k ih =>
    intro key
    simp only [Prog.keySafe, Bool.and_eq_true] at h
    simp only [siteKeys]
    rcases primKeys_shape prim h.1 key with hs | hs
    · rw [hs]
      -- the site reads `key ++ [1]`, everything later extends `key ++ [0]`
      refine List.pairwise_cons.mpr ⟨fun x hx => ?_, ih h.2 _⟩
      obtain ⟨s, rfl, _⟩ := siteKeys_prefix k h.2 (key ++ [0]) x hx
      rw [List.append_assoc, List.prefix_append_right_inj, List.prefix_append_right_inj]
      exact ⟨fun hp => Nat.one_ne_zero (List.cons_prefix_cons.mp hp).1,
        fun hp => Nat.zero_ne_one (List.cons_prefix_cons.mp hp).1⟩
    · rw [hs]; exact ih h.2 key
  | addCost e k ih => intro key; exact ih h key
  | cond i pt pf k _ _ _ => cases h

/-- `a` does not fail with a `raises` error.  Closed under `>>=` (`NoRaise.bind`): an estimator can only raise where
    its continuation does. -/
def NoRaise {α : Type} (a : Except Err α) : Prop := ∀ c, a ≠ .error (.raises c)

theorem NoRaise.bind {α β : Type} {a : Except Err α} {f : α → Except Err β}
    (ha : NoRaise a) (hf : ∀ x, NoRaise (f x)) : NoRaise (a >>= f) := by
  cases a with
  | error e => exact fun c h => ha c (congrArg Except.error (Except.error.inj h))
  | ok x => exact hf x

theorem NoRaise.pure {α : Type} (x : α) : NoRaise (pure x : Except Err α) := fun _ h => nomatch h

theorem NoRaise.arity {α : Type} : NoRaise (.error .arity : Except Err α) := fun _ h => nomatch h

theorem NoRaise.noise {α : Type} (s : String) (k : Key) (o : Option α) : NoRaise (optE (.noNoise s k) o) := by
  cases o <;> exact fun _ h => nomatch h

theorem Dual.sub_self_add (a x : Dual) : a - a + x = x :=
  Dual.ext' (by rw [Dual.add_p, Dual.sub_p, Rat.sub_self, Rat.zero_add])
    (by rw [Dual.add_t, Dual.sub_t, Rat.sub_self, Rat.zero_add])

theorem Dual.sub_const_zero (a : Dual) : a - Dual.const 0 = a :=
  Dual.ext' (sub_zero a.p) (sub_zero a.t)

/-- The tangent of `log q(x)` the interpreter computes is the score `REINFORCE` multiplies by. -/
theorem logq_t (p : Dual) (L1 L0 : Rat) (x : Bool) :
    (if x then logDual p L1 else logDual (Dual.const 1 - p) L0).t = flipLpTangent x p := by
  cases x
  · show (0 - p.t) / (1 - p.p) = -(p.t / (1 - p.p))
    rw [zero_sub, neg_div]
  · rfl

/-- In terms of the standardised residual `z = (x − m)/s`; the constant and `ln s` itself play no part. -/
theorem normalLpDual_t (c : Rat) (x m s : Dual) (l : Rat) :
    (normalLpDual c x m s l).t = -(((x - m) / s).p * ((x - m) / s).t) - s.t / s.p := by
  simp only [normalLpDual, logDual, Dual.sub_t, Dual.mul_t, Dual.mul_p, Dual.add_t, Dual.const_t, Dual.const_p]
  ring

/-- With a constant scale only the location moves. -/
theorem normalLpDual_t_const_scale (c s l : Rat) (x m : Dual) :
    (normalLpDual c x m (Dual.const s) l).t = -((x.p - m.p) / (s * s)) * (x.t - m.t) := by
  rw [normalLpDual_t]
  simp only [Dual.div_p, Dual.div_t, Dual.sub_p, Dual.sub_t, Dual.const_p, Dual.const_t]
  ring

end GenjaxVerif.Adev
