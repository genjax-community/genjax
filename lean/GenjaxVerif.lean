-- GENERATED by tools/gen_lean_root.py — root of the `GenjaxVerif` library.
import GenjaxVerif.Model.Adev
import GenjaxVerif.Model.Chm
import GenjaxVerif.Model.Derived
import GenjaxVerif.Model.Dist
import GenjaxVerif.Model.FinProbInfer
import GenjaxVerif.Model.GFI
import GenjaxVerif.Model.HMM
import GenjaxVerif.Model.IR
import GenjaxVerif.Model.IRSem
import GenjaxVerif.Model.Infer
import GenjaxVerif.Model.Key
import GenjaxVerif.Model.Leapfrog
import GenjaxVerif.Model.Mask
import GenjaxVerif.Model.Pytree
import GenjaxVerif.Model.Sel
import GenjaxVerif.Model.Sexp
import GenjaxVerif.Model.TimeTravel
import GenjaxVerif.Model.Val
import GenjaxVerif.Lemmas.Adev
import GenjaxVerif.Lemmas.CMap
import GenjaxVerif.Lemmas.Chm
import GenjaxVerif.Lemmas.Dist
import GenjaxVerif.Lemmas.Except
import GenjaxVerif.Lemmas.FinProbInfer
import GenjaxVerif.Lemmas.GFIBasic
import GenjaxVerif.Lemmas.GFIKept
import GenjaxVerif.Lemmas.GFIProject
import GenjaxVerif.Lemmas.GFIReplay
import GenjaxVerif.Lemmas.GFIRun
import GenjaxVerif.Lemmas.GFISafe
import GenjaxVerif.Lemmas.GFITrace
import GenjaxVerif.Lemmas.GFIUpdate
import GenjaxVerif.Lemmas.GFIWeights
import GenjaxVerif.Lemmas.HMM
import GenjaxVerif.Lemmas.IR
import GenjaxVerif.Lemmas.Infer
import GenjaxVerif.Lemmas.Leapfrog
import GenjaxVerif.Lemmas.Mask
import GenjaxVerif.Lemmas.Pytree
import GenjaxVerif.Lemmas.Sel
import GenjaxVerif.Lemmas.TimeTravel
import GenjaxVerif.Props.C01
import GenjaxVerif.Props.C02
import GenjaxVerif.Props.C03
import GenjaxVerif.Props.C04
import GenjaxVerif.Props.C05
import GenjaxVerif.Props.C06
import GenjaxVerif.Props.C07
import GenjaxVerif.Props.C09
import GenjaxVerif.Props.C10
import GenjaxVerif.Props.C11
import GenjaxVerif.Props.C12
import GenjaxVerif.Props.C13
import GenjaxVerif.Props.C14
import GenjaxVerif.Props.C15
import GenjaxVerif.Props.C16
import GenjaxVerif.Props.C17
import GenjaxVerif.Props.C18
import GenjaxVerif.Props.C19
import GenjaxVerif.Props.C20
import GenjaxVerif.Props.C21
import GenjaxVerif.Props.C22
import GenjaxVerif.Props.C24
import GenjaxVerif.Props.C25
import GenjaxVerif.Props.C26
import GenjaxVerif.Props.C27
import GenjaxVerif.Props.C28
import GenjaxVerif.Props.C29
import GenjaxVerif.Props.C30
import GenjaxVerif.Props.C31
import GenjaxVerif.Props.C32
import GenjaxVerif.Props.C33
import GenjaxVerif.Props.C34
import GenjaxVerif.Props.C35
import GenjaxVerif.Props.C36
import GenjaxVerif.Props.C37
import GenjaxVerif.Props.C38
import GenjaxVerif.Props.GFITest
